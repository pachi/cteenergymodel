import Cte.Model.Num
import Cte.Model.Json
import Cte.Model.Types
import Cte.Model.Decode
import Cte.Model.Check
import Cte.Model.Purge
import Cte.Model.Energy
import Cte.Model.Indicators
import Cte.Model.Extra
import Cte.Model.Sane
import Cte.Model.RadTable
import Cte.Props.C06
import Cte.Props.C06Bounds
import Cte.Props.C07
import Cte.Props.C08
import Cte.Props.C09
import Cte.Props.C09Mono
import Cte.Props.C10
import Cte.Props.C10Mono
import Cte.Props.C11
import Cte.Props.C11Classes
import Cte.Props.C15
import Cte.Props.C16
import Cte.Props.C16Indicators
import Cte.Props.C13
import Cte.Props.C13Iter
import Cte.Props.C13Poly
import Cte.Props.C12
import Cte.Props.C12Gains
import Cte.Props.C12Origins
import Cte.Props.C14
import Cte.Props.C14Sane
import Cte.Props.C14Json
import Cte.Props.C17
import Cte.Props.C17Conv
import Cte.Props.C17Occ
import Cte.Props.C20
import Cte.Props.C04
import Cte.Props.C04Schema
import Cte.Props.C01
import Cte.Props.C01Extra
import Cte.Props.C05
import Cte.Props.C05Src
import Cte.Model.Damage
import Cte.Props.C19Periods
import Cte.Props.C19
import Cte.Model.Bdl
import Cte.Props.C18
import Cte.Model.Convert
import Cte.Props.C02
import Cte.Model.Placement
import Cte.Model.PlacementWin
import Cte.Props.C03
import Cte.Props.C03Win
import Cte.Props.C03Values
import Cte.Model.HulcAux
import Cte.Model.BdlData
import Cte.Model.ConvValues
import Cte.Model.ConvSched
import Cte.Model.Pipeline
import Cte.Props.C18Typed
import Cte.Props.C18Aux
import Cte.Props.C13Reveal
import Cte.Props.C18Tbl
import Cte.Props.C18Kyg
