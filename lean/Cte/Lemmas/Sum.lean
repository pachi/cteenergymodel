/-
`rsum` (the model's left fold) is `List.sum`, so Mathlib's lemmas apply. Beyond them: a loop that adds to a
component computes a sum, filtered sums are sums with zeros, a sum splits over the classes of a partition.
-/
import Cte.Lemmas.Num
import Mathlib.Algebra.Order.BigOperators.Group.List
import Mathlib.Tactic.Ring
import Mathlib.Tactic.Linarith
namespace Cte

theorem rsum_eq_sum (l : List Rat) : rsum l = l.sum := List.sum_eq_foldl.symm

@[simp] theorem rsum_nil : rsum [] = 0 := rfl

@[simp] theorem rsum_cons (a : Rat) (l : List Rat) : rsum (a :: l) = a + rsum l := by
  simp only [rsum_eq_sum, List.sum_cons]

@[simp] theorem rsum_append (a b : List Rat) : rsum (a ++ b) = rsum a + rsum b := by
  simp only [rsum_eq_sum, List.sum_append]

theorem rsum_perm {a b : List Rat} (h : a.Perm b) : rsum a = rsum b := by
  simp only [rsum_eq_sum, h.sum_eq]

theorem rsum_nonneg {l : List Rat} (h : ∀ x ∈ l, 0 ≤ x) : 0 ≤ rsum l := by
  rw [rsum_eq_sum]; exact List.sum_nonneg h

theorem rsum_map_add {α} (l : List α) (f g : α → Rat) :
    rsum (l.map (fun x => f x + g x)) = rsum (l.map f) + rsum (l.map g) := by
  simp only [rsum_eq_sum, List.sum_map_add]

theorem rsum_map_mul_left {α} (l : List α) (c : Rat) (f : α → Rat) :
    rsum (l.map (fun x => c * f x)) = c * rsum (l.map f) := by
  induction l with
  | nil => simp
  | cons a t ih => rw [List.map_cons, rsum_cons, ih, List.map_cons, rsum_cons, mul_add]

theorem foldl_rsum {α β} {step : β → α → β} (π : β → Rat) {g : α → Rat}
    (h : ∀ b x, π (step b x) = π b + g x) (l : List α) (b : β) :
    π (l.foldl step b) = π b + rsum (l.map g) := by
  induction l generalizing b with
  | nil => simp
  | cons x t ih => rw [List.foldl_cons, ih, h, List.map_cons, rsum_cons, add_assoc]

theorem rsum_filter {α} (l : List α) (p : α → Bool) (f : α → Rat) :
    rsum ((l.filter p).map f) = rsum (l.map (fun x => if p x then f x else 0)) := by
  simp [rsum_eq_sum, List.sum_map_ite]

theorem rsum_filterMap {α β} (l : List α) (g : α → Option β) (h : β → Rat) :
    rsum ((l.filterMap g).map h) = rsum (l.map (fun x => ((g x).map h).getD 0)) := by
  induction l with
  | nil => rfl
  | cons a t ih => cases hg : g a <;> simp [hg, ih]

theorem rsum_map_filter_zero {α} (l : List α) (q : α → Bool) (f : α → Rat)
    (h : ∀ x ∈ l, q x = false → f x = 0) : rsum ((l.filter q).map f) = rsum (l.map f) := by
  rw [rsum_filter]
  exact congrArg rsum (List.map_congr_left fun x hx =>
    ite_eq_left_iff.2 fun hq => (h x hx (Bool.eq_false_iff.2 hq)).symm)

theorem rsum_map_filter_filter_zero {α} (l : List α) (q p : α → Bool) (f : α → Rat)
    (h : ∀ x ∈ l, q x = false → f x = 0) :
    rsum (((l.filter q).filter p).map f) = rsum ((l.filter p).map f) := by
  rw [List.filter_comm]
  exact rsum_map_filter_zero _ q f fun x hx => h x (List.mem_of_mem_filter hx)

theorem rsum_map_pos {α} {l : List α} {f : α → Rat} (hne : l ≠ []) (h : ∀ x ∈ l, 0 < f x) :
    0 < rsum (l.map f) := by
  rw [rsum_eq_sum]; exact List.sum_pos _ (List.forall_mem_map.2 h) (by simpa using hne)

/-- `ks` lists every class once, `c` classifies -/
theorem rsum_partition {α κ} [DecidableEq κ] (ks : List κ) (hks : ∀ k, ks.count k = 1) (c : α → κ)
    (l : List α) (f : α → Rat) :
    rsum (ks.map (fun k => rsum ((l.filter (fun x => c x = k)).map f))) = rsum (l.map f) := by
  induction l with
  | nil => simp [rsum_eq_sum]
  | cons a t ih =>
    -- the head lands in exactly one class
    have h1 : rsum (ks.map (fun k => if c a = k then f a else 0)) = f a := by
      rw [rsum_eq_sum, List.sum_map_eq_nsmul_single (c a) _ (fun k hk _ => if_neg (Ne.symm hk)), hks]
      simp
    rw [List.map_cons, rsum_cons, ← ih, ← h1, ← rsum_map_add]
    exact congrArg rsum (List.map_congr_left fun k _ => by by_cases h : c a = k <;> simp [h])

theorem rsum_filter_split {α} (l : List α) (p : α → Bool) (f : α → Rat) :
    rsum (l.map f) = rsum ((l.filter p).map f) + rsum ((l.filter (fun x => !p x)).map f) := by
  simpa [rsum_eq_sum] using (List.sum_map_filter_add_sum_map_filter_not (p ·) f l).symm

end Cte
