/-
`J.beq`, the test behind `skip_serializing_if`, holds only of equal values.
-/
import Cte.Model.Codec
namespace Cte

mutual
  theorem J.beq_sound : ∀ (a b : J), J.beq a b = true → a = b
    | .null, b, h | .bool _, b, h | .num _ _ _, b, h | .str _, b, h => by cases b <;> simp_all [J.beq]
    | .arr a, b, h => by
        cases b <;> simp only [J.beq, Bool.false_eq_true] at h
        rw [beqList_sound a _ h]
    | .obj a, b, h => by
        cases b <;> simp only [J.beq, Bool.false_eq_true] at h
        rw [beqKvs_sound a _ h]
  theorem beqList_sound : ∀ (a b : List J), beqList a b = true → a = b
    | [], [], _ => rfl
    | x :: xs, y :: ys, h => by
        simp only [beqList, Bool.and_eq_true] at h
        rw [J.beq_sound x y h.1, beqList_sound xs ys h.2]
    | [], _ :: _, h | _ :: _, [], h => by simp [beqList] at h
  theorem beqKvs_sound : ∀ (a b : List (String × J)), beqKvs a b = true → a = b
    | [], [], _ => rfl
    | (k, x) :: xs, (k', y) :: ys, h => by
        simp only [beqKvs, Bool.and_eq_true, beq_iff_eq] at h
        rw [h.1.1, J.beq_sound x y h.1.2, beqKvs_sound xs ys h.2]
    | [], _ :: _, h | _ :: _, [], h => by simp [beqKvs] at h
end

end Cte
