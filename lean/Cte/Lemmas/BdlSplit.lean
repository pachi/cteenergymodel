/-
`split("..")` on the cleaned text: the block texts of a document whose lines contain no `..`
except the terminator lines.
-/
import Cte.Lemmas.BdlLines

namespace Cte.Bdl

/-- no two consecutive dots -/
def noDD : Str → Bool
  | '.' :: '.' :: _ => false
  | _ :: t => noDD t
  | [] => true

theorem noDD_cons (c : Char) (t : Str) : noDD (c :: t) = (!(c == '.' && t.head? == some '.') && noDD t) := by
  by_cases h : c = '.' ∧ t.head? = some '.'
  · obtain ⟨rfl, ht⟩ := h
    obtain ⟨r, rfl⟩ := List.head?_eq_some_iff.mp ht
    rfl
  · -- second clause; side condition: the first, `'.' :: '.' :: _`, does not apply
    rw [noDD.eq_2 c t fun t' hc ht => h ⟨hc, by rw [ht]; rfl⟩,
      show (c == '.' && t.head? == some '.') = false by simpa using h]
    rfl

theorem noDD_head (t : Str) (h : noDD ('.' :: t) = true) : ∀ t', t ≠ '.' :: t' := by
  rintro t' rfl
  exact Bool.false_ne_true h

theorem noDD_append {a b : Str} (ha : noDD a = true) (hb : noDD b = true)
    (hj : a.getLast? ≠ some '.' ∨ b.head? ≠ some '.') : noDD (a ++ b) = true := by
  induction a with
  | nil => exact hb
  | cons c t ih =>
    rw [noDD_cons, Bool.and_eq_true] at ha
    rw [List.cons_append, noDD_cons, Bool.and_eq_true]
    cases t with
    | nil => exact ⟨by simpa [Decidable.imp_iff_not_or] using hj, hb⟩
    | cons d r => exact ⟨ha.1, ih ha.2 (by rwa [List.getLast?_cons_cons] at hj)⟩

theorem noDD_join {ls : List Str} (h : ∀ l ∈ ls, noDD l = true) : noDD (joinWith ['\n'] ls) = true := by
  fun_induction joinWith ['\n'] ls with
  | case1 => rfl
  | case2 a => exact h a (by simp)
  | case3 a t _ ih =>
    exact noDD_append (noDD_append (b := ['\n']) (h a (by simp)) rfl (Or.inr (by simp)))
      (ih fun l hl => h l (by simp [hl])) (Or.inl (by simp))

theorem splitDots_cons {c : Char} {t : Str} (h : c = '.' → t.head? ≠ some '.') :
    splitDots (c :: t) = match splitDots t with
      | p :: r => (c :: p) :: r
      | [] => [[c]] :=
  splitDots.eq_2 c t fun _ hc ht => h hc (ht ▸ rfl)

/-- `hl`: the split is leftmost; a piece ending in a dot would be cut one character early -/
theorem splitDots_append {a : Str} (h : noDD a = true) (hl : a.getLast? ≠ some '.') (rest : Str) :
    splitDots (a ++ '.' :: '.' :: rest) = a :: splitDots rest := by
  induction a with
  | nil => exact splitDots.eq_1 _
  | cons c t ih =>
    rw [noDD_cons, Bool.and_eq_true] at h
    rw [List.cons_append, splitDots_cons, ih h.2 fun e => hl (by rw [List.getLast?_cons, e]; rfl)]
    -- the side condition of `splitDots_cons`
    rintro rfl
    cases t with
    | nil => exact absurd rfl hl
    | cons d r => simpa using h.1

theorem splitDots_noDD (a : Str) (h : noDD a = true) : splitDots a = [a] := by
  induction a with
  | nil => rfl
  | cons c t ih =>
    rw [noDD_cons, Bool.and_eq_true] at h
    rw [splitDots_cons, ih h.2]
    rintro rfl ht
    simp [ht] at h

/-- a block as handed to `BdlBlock::from_str`: its lines, without the terminator line -/
def blockText (lines : List Str) : Str := joinWith ['\n'] lines
/-- what `clean_lines` leaves of a file: each block's lines, then its `..` line -/
def docLines (bs : List (List Str)) : List Str := bs.flatMap (fun ls => ls ++ [['.', '.']])

theorem joinWith_docLines {bs : List (List Str)} (hne : ∀ b ∈ bs, b ≠ []) (h : bs ≠ []) :
    '\n' :: joinWith ['\n'] (docLines bs) = bs.flatMap (fun b => '\n' :: (blockText b ++ ['\n', '.', '.'])) := by
  have := sep_append_joinWith ['\n'] (ls := docLines bs) (by cases bs <;> simp [docLines] at h ⊢)
  rw [List.singleton_append] at this
  rw [this, docLines, List.flatMap_assoc, List.flatMap_def, List.flatMap_def]
  congr 1
  refine List.map_congr_left fun b hb => ?_
  rw [List.flatMap_append, ← sep_append_joinWith _ (hne b hb)]
  simp [blockText]

/-- `build_blocks`: the trimmed, non-empty pieces between `..` -/
def blockTextsOf (s : Str) : List Str := ((splitDots s).map trim).filter (fun b => !b.isEmpty)

theorem buildBlocks_eq (s : Str) : buildBlocks s = blocksFold {} (blockTextsOf (sanitize s)) := rfl

theorem blockTextsOf_cons_ws {w : Char} (hw : isWs w = true) (s : Str) : blockTextsOf (w :: s) = blockTextsOf s := by
  have ht : ∀ h, trim (w :: h) = trim h := fun h => by simp [trim, trimL, hw]
  unfold blockTextsOf
  rw [splitDots_cons fun h => absurd (h ▸ hw) (by decide)]
  cases splitDots s <;> simp [ht, trim_nil]

theorem blockTextsOf_block {t : Str} (hd : noDD t = true) (hc : Clean t) (rest : Str) :
    blockTextsOf ('\n' :: (t ++ ['\n', '.', '.']) ++ rest) = t :: blockTextsOf rest := by
  have hnd : noDD (['\n'] ++ t ++ ['\n']) = true :=
    noDD_append (noDD_append (a := ['\n']) rfl hd (Or.inl (by decide))) rfl (Or.inr (by decide))
  have e : '\n' :: (t ++ ['\n', '.', '.']) ++ rest = (['\n'] ++ t ++ ['\n']) ++ '.' :: '.' :: rest := by simp
  unfold blockTextsOf
  rw [e, splitDots_append hnd (by rw [List.getLast?_append]; exact nofun), List.map_cons,
    trim_pad (w1 := ['\n']) (w2 := ['\n']) (by decide) (by decide) hc, List.filter_cons_of_pos (by simpa using hc.ne_nil)]

theorem blockTextsOf_doc {bs : List (List Str)} (hdd : ∀ b ∈ bs, ∀ l ∈ b, noDD l = true)
    (hclean : ∀ b ∈ bs, Clean (blockText b)) :
    blockTextsOf (joinWith ['\n'] (docLines bs)) = bs.map blockText := by
  by_cases hne : bs = []
  · subst hne; rfl
  rw [← blockTextsOf_cons_ws isWs_nl, joinWith_docLines (fun b hb e => (hclean b hb).ne_nil (e ▸ rfl)) hne]
  clear hne
  induction bs with
  | nil => rfl
  | cons b rest ih =>
    rw [List.flatMap_cons, blockTextsOf_block (t := blockText b) (noDD_join (hdd b (by simp))) (hclean b (by simp)),
      ih (fun x hx => hdd x (by simp [hx])) (fun x hx => hclean x (by simp [hx]))]
    rfl

end Cte.Bdl
