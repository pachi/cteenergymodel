/-
From the text of a file to its logical lines: splitting at a character inverts joining with it; `lines()` on
newline-terminated and on newline-separated lines, and what a reader that trims its lines sees of a file whose lines
end in CRLF or LF one by one; `clean_lines` on a rendered list of physical lines.
-/
import Cte.Lemmas.BdlText
import Cte.Model.HulcAux

namespace Cte.Props.C18Aux
open Cte.Bdl

-- under this name in the statements of `Props/C18Aux`
def Free (p : Char → Bool) (t : Str) : Prop := ∀ c ∈ t, p c = false

end Cte.Props.C18Aux

namespace Cte.Bdl
open Cte.Aux Cte.Props.C18Aux

/-- a line of the file as on disk -/
structure PLine where
  body : Str
  crlf : Bool

/-- CRLF, as HULC writes it, or LF -/
def PLine.eol (l : PLine) : Str := if l.crlf then ['\r', '\n'] else ['\n']

/-- the file text, input of `build_blocks` -/
def render (ls : List PLine) : Str := ls.flatMap (fun l => l.body ++ l.eol)

/-- `ÿ`: marker byte of old LIDER files, deleted by `clean_lines` -/
def BodyOK (b : Str) : Prop := '\n' ∉ b ∧ '\r' ∉ b ∧ 'ÿ' ∉ b

instance (b : Str) : Decidable (BodyOK b) := by unfold BodyOK; infer_instance

theorem splitBy_token {p : Char → Bool} {tok : Str} {sep : Char} (ht : Free p tok) (hs : p sep = true) (rest : Str) :
    splitBy p (tok ++ sep :: rest) = tok :: splitBy p rest := by
  induction tok with
  | nil => simp [splitBy, hs]
  | cons a t ih => simp [splitBy, ht a (by simp), ih fun c hc => ht c (by simp [hc])]

theorem splitBy_last {p : Char → Bool} {tok : Str} (ht : Free p tok) : splitBy p tok = [tok] := by
  induction tok with
  | nil => rfl
  | cons a t ih => simp [splitBy, ht a (by simp), ih fun c hc => ht c (by simp [hc])]

theorem free_beq {c : Char} {t : Str} (h : c ∉ t) : Free (· == c) t :=
  fun _ hx => beq_eq_false_iff_ne.mpr fun e => h (e ▸ hx)

theorem splitNl_eq_splitChar (s : Str) : splitNl s = splitChar '\n' s := by
  induction s with
  | nil => rfl
  | cons c t ih =>
    simp only [splitNl, splitChar, splitBy, ih, beq_iff_eq]
    cases splitBy (· == '\n') t <;> rfl

theorem splitNl_body {b : Str} (h : '\n' ∉ b) (rest : Str) : splitNl (b ++ '\n' :: rest) = b :: splitNl rest := by
  rw [splitNl_eq_splitChar, splitNl_eq_splitChar]
  exact splitBy_token (free_beq h) rfl rest

theorem splitNl_of_not_mem {b : Str} (h : '\n' ∉ b) : splitNl b = [b] :=
  (splitNl_eq_splitChar b).trans (splitBy_last (free_beq h))

theorem joinWith_cons {sep a : Str} {t : List Str} (h : t ≠ []) : joinWith sep (a :: t) = a ++ sep ++ joinWith sep t :=
  joinWith.eq_3 sep a t h

/-- with a separator in front, joining treats every line alike -/
theorem sep_append_joinWith (sep : Str) {ls : List Str} (h : ls ≠ []) :
    sep ++ joinWith sep ls = ls.flatMap (sep ++ ·) := by
  fun_induction joinWith sep ls with
  | case1 => exact absurd rfl h
  | case2 a => simp
  | case3 a t ht ih => rw [List.flatMap_cons, ← ih ht]; simp

theorem not_mem_joinWith {c : Char} {sep : Str} {fs : List Str} (hs : c ∉ sep) (h : ∀ f ∈ fs, c ∉ f) :
    c ∉ joinWith sep fs := by
  fun_induction joinWith sep fs with
  | case1 => simp
  | case2 a => simpa using h
  | case3 a t _ ih =>
    simp only [List.mem_append, not_or]
    exact ⟨⟨h a (by simp), hs⟩, ih (fun f hf => h f (by simp [hf]))⟩

theorem joinWith_getLast {sep : Str} {fs : List Str} {f : Str} (hl : fs.getLast? = some f) {c : Char}
    (hc : f.getLast? = some c) : (joinWith sep fs).getLast? = some c := by
  fun_induction joinWith sep fs with
  | case1 => simp at hl
  | case2 a =>
    obtain rfl : a = f := by simpa using hl
    exact hc
  | case3 a t ht ih =>
    rw [List.getLast?_append, ih (by rwa [List.getLast?_cons_of_ne_nil ht] at hl)]
    rfl

theorem clean_join {sep : Str} {ls : List Str} (hne : ls ≠ []) (h : ∀ l ∈ ls, Clean l) : Clean (joinWith sep ls) := by
  fun_induction joinWith sep ls with
  | case1 => exact absurd rfl hne
  | case2 a => exact h a (by simp)
  | case3 a t ht ih => exact (h a (by simp)).append (ih ht fun l hl => h l (by simp [hl])) _

theorem splitChar_joinWith {c : Char} {fs : List Str} (hne : fs ≠ []) (hf : ∀ f ∈ fs, c ∉ f) :
    splitChar c (joinWith [c] fs) = fs := by
  fun_induction joinWith [c] fs with
  | case1 => exact absurd rfl hne
  | case2 a => exact splitBy_last (free_beq (hf a (by simp)))
  | case3 a t ht ih =>
    rw [List.append_assoc, List.singleton_append]
    exact (splitBy_token (free_beq (hf a (by simp))) (beq_self_eq_true c) _).trans
      (congrArg _ (ih ht fun f m => hf f (by simp [m])))

theorem splitNl_join {ls : List Str} (hne : ls ≠ []) (h : ∀ b ∈ ls, '\n' ∉ b) :
    splitNl (joinWith ['\n'] ls) = ls :=
  (splitNl_eq_splitChar _).trans (splitChar_joinWith hne h)

theorem splitNl_lines {bs : List Str} (h : ∀ b ∈ bs, '\n' ∉ b) :
    splitNl (bs.flatMap (fun b => b ++ ['\n'])) = bs ++ [[]] := by
  induction bs with
  | nil => rfl
  | cons b t ih =>
    rw [List.flatMap_cons, List.append_assoc, List.singleton_append, splitNl_body (h b (by simp)),
      ih (fun x hx => h x (by simp [hx]))]
    rfl

theorem linesOf_terminated {bs : List Str} (h : ∀ b ∈ bs, '\n' ∉ b) :
    linesOf (bs.flatMap (fun b => b ++ ['\n'])) = bs.map stripCr := by
  unfold linesOf
  simp [splitNl_lines h]

theorem stripCr_eq_self {b : Str} (h : b.getLast? ≠ some '\r') : stripCr b = b := by
  unfold stripCr
  split
  · next r heq => exact absurd (by rw [← List.head?_reverse, heq]; rfl) h
  · rfl

theorem map_stripCr {bs : List Str} (h : ∀ b ∈ bs, '\r' ∉ b) : bs.map stripCr = bs :=
  (List.map_congr_left fun b hb => stripCr_eq_self fun e => h b hb (List.mem_of_getLast? e)).trans (List.map_id bs)

theorem stripCr_append_cr (b : Str) : stripCr (b ++ ['\r']) = b := by
  simp [stripCr]

theorem linesOf_crlf {bs : List Str} (h : ∀ b ∈ bs, '\n' ∉ b) :
    linesOf (bs.flatMap (fun b => b ++ ['\r', '\n'])) = bs := by
  have := linesOf_terminated (bs := bs.map (· ++ ['\r'])) (by simpa using h)
  simpa [List.flatMap_map, Function.comp_def, stripCr_append_cr] using this

/-- `hl` (asked of every line): `lines()` drops an empty last piece -/
theorem linesOf_join {ls : List Str} (h : ∀ b ∈ ls, '\n' ∉ b ∧ '\r' ∉ b) (hl : ∀ b ∈ ls, b ≠ []) :
    linesOf (joinWith ['\n'] ls) = ls := by
  by_cases hne : ls = []
  · subst hne; rfl
  have hmap := map_stripCr (bs := ls.dropLast) fun b hb => (h b (List.dropLast_subset ls hb)).2
  unfold linesOf
  simp only [splitNl_join hne (fun b hb => (h b hb).1), List.getLast?_eq_some_getLast hne, hmap]
  cases hg : ls.getLast hne with
  | nil => exact absurd hg (hl _ (List.getLast_mem hne))
  | cons c r =>
    show ls.dropLast ++ [c :: r] = ls
    exact hg ▸ List.dropLast_concat_getLast hne

/-- what `lines()` does with a `\r` makes no difference to a reader that trims its lines -/
theorem trim_stripCr (b : Str) : trim (stripCr b) = trim b := by
  unfold stripCr
  split
  · next r h =>
    rw [← List.reverse_reverse b, h, List.reverse_cons]
    exact (trim_append_ws (by decide) _).symm
  · rfl

/-- a line end is `\n` after nothing or after a `\r`, which is blank -/
theorem PLine.eol_spec (l : PLine) : l.eol = l.eol.dropLast ++ ['\n'] ∧ AllWs l.eol.dropLast ∧ '\n' ∉ l.eol.dropLast := by
  unfold PLine.eol
  cases l.crlf <;> decide

/-- every line with its own line end, and whatever `\r` the bodies hold: the trimmed lines are the trimmed bodies -/
theorem trim_linesOf_render {ls : List PLine} (h : ∀ l ∈ ls, '\n' ∉ l.body) :
    (linesOf (render ls)).map trim = (ls.map (·.body)).map trim := by
  have e : render ls = (ls.map fun l => l.body ++ l.eol.dropLast).flatMap (· ++ ['\n']) := by
    rw [List.flatMap_map]
    exact congrArg (ls.flatMap ·) (funext fun l => by rw [List.append_assoc, ← l.eol_spec.1])
  rw [e, linesOf_terminated, List.map_map, List.map_map, List.map_map]
  · exact List.map_congr_left fun l _ => (trim_stripCr _).trans (trim_append_ws l.eol_spec.2.1 _)
  · simp only [List.mem_map]
    rintro _ ⟨l, hl, rfl⟩ m
    exact (List.mem_append.mp m).elim (h l hl) l.eol_spec.2.2

/-- one line end throughout -/
theorem render_map {bs : List Str} (e : Bool) :
    render (bs.map (PLine.mk · e)) = bs.flatMap (· ++ if e then ['\r', '\n'] else ['\n']) := by
  simp [render, PLine.eol, List.flatMap_map]

theorem replaceCrLf_cons_ne {c : Char} (h : c ≠ '\r') (t : Str) : replaceCrLf (c :: t) = c :: replaceCrLf t :=
  -- second clause; side condition: the first, `'\r' :: '\n' :: _`, does not apply
  replaceCrLf.eq_2 c t (fun _ hc _ => h hc)

theorem replaceCrLf_body {b : Str} (h : '\r' ∉ b) (rest : Str) : replaceCrLf (b ++ rest) = b ++ replaceCrLf rest := by
  induction b with
  | nil => rfl
  | cons a t ih =>
    rw [List.mem_cons, not_or] at h
    rw [List.cons_append, replaceCrLf_cons_ne (Ne.symm h.1), ih h.2]
    rfl

theorem replaceCrLf_render {ls : List PLine} (h : ∀ l ∈ ls, '\r' ∉ l.body) :
    replaceCrLf (render ls) = (ls.map (·.body)).flatMap (fun b => b ++ ['\n']) := by
  induction ls with
  | nil => rfl
  | cons l t ih =>
    have e : replaceCrLf (l.eol ++ render t) = '\n' :: replaceCrLf (render t) := by
      unfold PLine.eol
      cases l.crlf
      · exact replaceCrLf_cons_ne (by decide) _
      · exact replaceCrLf.eq_1 _
    have : render (l :: t) = l.body ++ (l.eol ++ render t) := by simp [render]
    rw [this, replaceCrLf_body (h l (by simp)), e, ih (fun x hx => h x (by simp [hx]))]
    simp

theorem cleanLines_render {ls : List PLine} (h : ∀ l ∈ ls, BodyOK l.body) :
    cleanLines (render ls) = joinWith ['\n'] (((ls.map (·.body)).map trim).filter keepLine) := by
  have hb : ∀ b ∈ ls.map (·.body), BodyOK b := by simpa using h
  have hf : ∀ c ∈ (ls.map (·.body)).flatMap (fun b => b ++ ['\n']), (c != 'ÿ') = true := by
    intro c hc
    obtain ⟨b, m, hc⟩ := List.mem_flatMap.mp hc
    rcases List.mem_append.mp hc with hc | hc
    · simpa using fun e : c = 'ÿ' => (hb b m).2.2 (e ▸ hc)
    · rw [List.mem_singleton.mp hc]; decide
  unfold cleanLines
  rw [replaceCrLf_render (fun l hl => (h l hl).2.1), List.filter_eq_self.mpr hf,
    linesOf_terminated fun b m => (hb b m).1, map_stripCr fun b m => (hb b m).2.1]

end Cte.Bdl
