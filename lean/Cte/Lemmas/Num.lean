/-
The model's own `rmax`, `rmin`, `rabs` (written with `if` so that model files need no Mathlib) are
the order's `max`, `min`, `|·|`: after rewriting with these, every fact about them is Mathlib's.
-/
import Cte.Model.Num
import Mathlib.Algebra.Order.Field.Basic
import Mathlib.Algebra.Order.Ring.Rat
namespace Cte

theorem rmax_eq_max (a b : Rat) : rmax a b = max a b := by
  unfold rmax; split
  next h => exact (max_eq_right h.le).symm
  next h => exact (max_eq_left (not_lt.1 h)).symm

theorem rmin_eq_min (a b : Rat) : rmin a b = min a b := by
  unfold rmin; split
  next h => exact (min_eq_right h.le).symm
  next h => exact (min_eq_left (not_lt.1 h)).symm

theorem rabs_eq_abs (x : Rat) : rabs x = |x| := by
  unfold rabs; split
  next h => exact (abs_of_neg h).symm
  next h => exact (abs_of_nonneg (not_lt.1 h)).symm

/-- the shape of the code's `unwrap_or_default()` on an optional quantity that is non-negative when present -/
theorem getD_zero_nonneg {o : Option Rat} (h : ∀ x, o = some x → 0 ≤ x) : 0 ≤ o.getD 0 := by
  cases o with
  | none => exact le_rfl
  | some x => exact h x rfl

/-- 0 is below `f32::EPSILON`: what the code's `abs(x) < EPSILON` tests accept for an exact 0 -/
theorem rabs_zero_lt_f32Eps : rabs 0 < f32Eps := by decide +kernel

end Cte
