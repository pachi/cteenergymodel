/-
An angle is any pair (c, s): `Ang.add` is complex multiplication and `rotZ`, `rotX` are linear, so turning by a sum is
turning twice and turning distributes over `vadd` for all pairs; only undoing a turn needs c² + s² = 1.  Statements about
`toGlobal` are proved by moving rotations, not by expanding the coordinates of a whole pose.
-/
import Cte.Model.Placement
import Mathlib.Tactic.Ring
import Mathlib.Tactic.LinearCombination
namespace Cte.Place

theorem _root_.Cte.Vec3.ext {a b : Vec3} (hx : a.x = b.x) (hy : a.y = b.y) (hz : a.z = b.z) : a = b := by
  cases a; cases b; simp_all

theorem Ang.ext {a b : Ang} (hc : a.c = b.c) (hs : a.s = b.s) : a = b := by
  cases a; cases b; simp_all

theorem Ang.add_comm (a b : Ang) : Ang.add a b = Ang.add b a := by
  apply Ang.ext <;> simp only [Ang.add] <;> ring

theorem Ang.neg_add (a b : Ang) : Ang.neg (Ang.add a b) = Ang.add (Ang.neg a) (Ang.neg b) := by
  apply Ang.ext <;> simp only [Ang.add, Ang.neg] <;> ring

/-- 180° − (g + a + w) as turns: back by `g`, back by `a`, then the wall's own 180° − w -/
theorem azimuth52016_eq (g a w : Ang) :
    azimuth52016 g a w = Ang.add (Ang.neg g) (Ang.add (Ang.neg a) ⟨-w.c, w.s⟩) := by
  apply Ang.ext <;> simp only [azimuth52016, Ang.add, Ang.neg, Ang.pi] <;> ring

theorem vadd_comm (u v : Vec3) : vadd u v = vadd v u := by
  apply Vec3.ext <;> simp only [vadd] <;> ring

theorem vadd_assoc (u v w : Vec3) : vadd (vadd u v) w = vadd u (vadd v w) := by
  apply Vec3.ext <;> simp only [vadd] <;> ring

theorem rotZ_add (a b : Ang) (v : Vec3) : rotZ (Ang.add a b) v = rotZ a (rotZ b v) := by
  apply Vec3.ext <;> simp only [rotZ, Ang.add] <;> ring

theorem rotX_add (a b : Ang) (v : Vec3) : rotX (Ang.add a b) v = rotX a (rotX b v) := by
  apply Vec3.ext <;> simp only [rotX, Ang.add] <;> ring

theorem rotZ_vadd (a : Ang) (u v : Vec3) : rotZ a (vadd u v) = vadd (rotZ a u) (rotZ a v) := by
  apply Vec3.ext <;> simp only [rotZ, vadd] <;> ring

theorem rotX_vadd (a : Ang) (u v : Vec3) : rotX a (vadd u v) = vadd (rotX a u) (rotX a v) := by
  apply Vec3.ext <;> simp only [rotX, vadd] <;> ring

theorem rotZ_neg_cancel {a : Ang} (ha : Ang.Unit a) (v : Vec3) : rotZ a (rotZ (Ang.neg a) v) = v := by
  unfold Ang.Unit at ha
  apply Vec3.ext <;> simp only [rotZ, Ang.neg]
  · linear_combination v.x * ha
  · linear_combination v.y * ha

theorem rotX_neg_cancel {a : Ang} (ha : Ang.Unit a) (v : Vec3) : rotX a (rotX (Ang.neg a) v) = v := by
  unfold Ang.Unit at ha
  apply Vec3.ext <;> simp only [rotX, Ang.neg]
  · linear_combination v.y * ha
  · linear_combination v.z * ha

theorem toGlobal_eq (pos : Vec3) (az t : Ang) (u v : Rat) :
    toGlobal pos az t u v =
      ⟨pos.x + (az.c * u - az.s * (t.c * v)), pos.y + (az.s * u + az.c * (t.c * v)), pos.z + t.s * v⟩ := by
  simp [toGlobal, vadd, rotZ, rotX]

theorem rotZ_toGlobal (d : Ang) (pos : Vec3) (az t : Ang) (u v : Rat) :
    rotZ d (toGlobal pos az t u v) = toGlobal (rotZ d pos) (Ang.add d az) t u v := by
  unfold toGlobal; rw [rotZ_vadd, rotZ_add]

theorem vadd_toGlobal (off pos : Vec3) (az t : Ang) (u v : Rat) :
    vadd off (toGlobal pos az t u v) = toGlobal (vadd off pos) az t u v := by
  unfold toGlobal; rw [vadd_assoc]

/-- the polygon point `(u, v)` of a wall at `o` with BDL azimuth `w` lands where the source convention places that point of
    the wall laid out in space coordinates (local x axis turned by 180° − w) -/
theorem wall_placed (g w t : Ang) (sp : SpaceP) (o : Vec3) (u v : Rat) :
    toGlobal (wallPosition g sp o) (azimuth52016 g sp.ang w) t u v = placeSpec g sp (toGlobal o ⟨-w.c, w.s⟩ t u v) := by
  unfold wallPosition placeSpec
  rw [azimuth52016_eq, ← rotZ_toGlobal, vadd_comm, ← vadd_toGlobal, ← rotZ_toGlobal]

/-- a surface attached to a wall: if its polygon point, turned by its own tilt and azimuth, is the wall-frame vector `q`
    turned by the wall's, it lies at `p + q` in the wall's frame -/
theorem toGlobal_wallToWorld {pos p q : Vec3} {az t az' t' : Ang} {u v : Rat}
    (h : rotZ az' (rotX t' ⟨u, v, 0⟩) = rotZ az (rotX t q)) :
    toGlobal (wallToWorld pos az t p) az' t' u v = wallToWorld pos az t (vadd p q) := by
  unfold toGlobal wallToWorld; rw [h, rotX_vadd, rotZ_vadd, vadd_assoc]

/-- hinged on the wall at `p`: the wall's azimuth, its tilt turned on by `a` (an overhang: minus its angle; the head and sill
    reveals of a set-back window: ±90°) -/
theorem toGlobal_tilt_add (pos p : Vec3) (az t a : Ang) (u v : Rat) :
    toGlobal (wallToWorld pos az t p) az (Ang.add t a) u v = wallToWorld pos az t ⟨p.x + u, p.y + v * a.c, p.z + v * a.s⟩ := by
  -- `q` by unification: after `rotX_add`, `rotX a ⟨u, v, 0⟩`
  rw [toGlobal_wallToWorld (by rw [rotX_add])]
  simp [vadd, rotX, mul_comm]

/-- standing on the wall at `p`, vertical, azimuth ±90° from the wall's, polygon turned in its plane by the wall's tilt (the jamb
    reveals; at tilt 90° the polygon is as written: the fins): `(u, v) ↦ p + (0, v, ∓u)` for every wall tilt and azimuth -/
theorem toGlobal_az_add_half (pos p : Vec3) (az t : Ang) (u v : Rat) :
    toGlobal (wallToWorld pos az t p) (Ang.add az Ang.half) Ang.half (v * t.c + u * t.s) (v * t.s - u * t.c) =
      wallToWorld pos az t ⟨p.x, p.y + v, p.z - u⟩ := by
  rw [toGlobal_wallToWorld (q := ⟨0, v, -u⟩) (by
    rw [rotZ_add]; congr 1
    apply Vec3.ext <;> simp only [rotZ, rotX, Ang.half] <;> ring)]
  simp [vadd, sub_eq_add_neg]

theorem toGlobal_az_sub_half (pos p : Vec3) (az t : Ang) (u v : Rat) :
    toGlobal (wallToWorld pos az t p) (Ang.add az (Ang.neg Ang.half)) Ang.half (u * t.s - v * t.c) (v * t.s + u * t.c) =
      wallToWorld pos az t ⟨p.x, p.y + v, p.z + u⟩ := by
  rw [toGlobal_wallToWorld (q := ⟨0, v, u⟩) (by
    rw [rotZ_add]; congr 1
    apply Vec3.ext <;> simp only [rotZ, rotX, Ang.half, Ang.neg] <;> ring)]
  simp [vadd]

end Cte.Place
