/-
The slab test computes "∃ t ≥ 0, o + t·d lies in the box", hence it is monotone under `join`; `Box3.hasPoint` serves
the bounding boxes of C13.
-/
import Cte.Model.Box
import Cte.Lemmas.Num
import Mathlib.Tactic.Linarith
import Mathlib.Algebra.Order.Field.Basic
namespace Cte

/-- an absent bound is no bound; `empty` is the case no bound expresses: `d = 0` with the origin outside the slab -/
def Itv.mem (t : Rat) (i : Itv) : Prop :=
  i.empty = false ∧ (∀ a, i.lo = some a → a ≤ t) ∧ (∀ b, i.hi = some b → t ≤ b)

theorem axisItv_mem (o d l h t : Rat) : (axisItv o d l h).mem t ↔ l ≤ o + t * d ∧ o + t * d ≤ h := by
  unfold axisItv Itv.mem
  rcases lt_trichotomy d 0 with hn | rfl | hp
  · -- dividing by a negative `d` swaps the two bounds
    simp only [hn.ne, not_lt_of_gt hn, if_false, Option.some.injEq, forall_eq', true_and]
    rw [div_le_iff_of_neg hn, le_div_iff_of_neg hn, le_sub_iff_add_le', sub_le_iff_le_add', and_comm]
  · simp
  · simp only [hp.ne', hp, if_false, if_true, Option.some.injEq, forall_eq', true_and]
    rw [div_le_iff₀ hp, le_div_iff₀ hp, sub_le_iff_le_add', le_sub_iff_add_le']

theorem maxOpt_le (a b : Option Rat) (t : Rat) :
    (∀ c, maxOpt a b = some c → c ≤ t) ↔ (∀ c, a = some c → c ≤ t) ∧ (∀ c, b = some c → c ≤ t) := by
  cases a <;> cases b <;>
    simp only [maxOpt, rmax_eq_max, max_le_iff, Option.some.injEq, forall_eq', reduceCtorEq, false_imp_iff, implies_true,
      true_and, and_true]

theorem le_minOpt (a b : Option Rat) (t : Rat) :
    (∀ c, minOpt a b = some c → t ≤ c) ↔ (∀ c, a = some c → t ≤ c) ∧ (∀ c, b = some c → t ≤ c) := by
  cases a <;> cases b <;>
    simp only [minOpt, rmin_eq_min, le_min_iff, Option.some.injEq, forall_eq', reduceCtorEq, false_imp_iff, implies_true,
      true_and, and_true]

theorem Itv.inter_mem (a b : Itv) (t : Rat) : (a.inter b).mem t ↔ a.mem t ∧ b.mem t := by
  simp only [Itv.mem, Itv.inter, maxOpt_le, le_minOpt, Bool.or_eq_false_iff]
  tauto

theorem itvFront_mem (t : Rat) : itvFront.mem t ↔ 0 ≤ t := by
  simp [itvFront, Itv.mem]

theorem Itv.nonempty_iff (i : Itv) : i.nonempty = true ↔ ∃ t, i.mem t := by
  rcases i with ⟨_ | _, lo, hi⟩
  · rcases lo with _ | a <;> rcases hi with _ | b <;>
      simp only [Itv.nonempty, Itv.mem, Bool.not_false, Bool.true_and, decide_eq_true_eq, Option.some.injEq, forall_eq',
        reduceCtorEq, false_imp_iff, implies_true, true_and, and_true, exists_const, true_iff]
    · exact ⟨b, le_refl _⟩
    · exact ⟨a, le_refl _⟩
    · exact ⟨fun h => ⟨a, le_refl _, h⟩, fun ⟨t, h1, h2⟩ => le_trans h1 h2⟩
  · exact ⟨nofun, fun ⟨_, h, _⟩ => nomatch h⟩

def Box3.contains (b : Box3) (r : RayQ) (t : Rat) : Prop :=
  (b.lo.x ≤ r.o.x + t * r.d.x ∧ r.o.x + t * r.d.x ≤ b.hi.x) ∧
  (b.lo.y ≤ r.o.y + t * r.d.y ∧ r.o.y + t * r.d.y ≤ b.hi.y) ∧
  (b.lo.z ≤ r.o.z + t * r.d.z ∧ r.o.z + t * r.d.z ≤ b.hi.z)

theorem Box3.hit_iff (r : RayQ) (b : Box3) : b.hit r = true ↔ ∃ t, 0 ≤ t ∧ b.contains r t := by
  simp only [Box3.hit, Itv.nonempty_iff, Itv.inter_mem, axisItv_mem, itvFront_mem, Box3.contains]
  exact exists_congr fun t =>
    ⟨fun ⟨⟨hx, hy⟩, hz, h0⟩ => ⟨h0, hx, hy, hz⟩, fun ⟨h0, hx, hy, hz⟩ => ⟨⟨hx, hy⟩, hz, h0⟩⟩

def Box3.hasPoint (b : Box3) (p : V3) : Prop :=
  b.lo.x ≤ p.x ∧ p.x ≤ b.hi.x ∧ b.lo.y ≤ p.y ∧ p.y ≤ b.hi.y ∧ b.lo.z ≤ p.z ∧ p.z ≤ b.hi.z

theorem Box3.hasPoint_ofPoint (p : V3) : (Box3.ofPoint p).hasPoint p :=
  ⟨le_refl _, le_refl _, le_refl _, le_refl _, le_refl _, le_refl _⟩

theorem Box3.hasPoint_join {a b : Box3} {p : V3} (h : a.hasPoint p ∨ b.hasPoint p) : (a.join b).hasPoint p := by
  simp only [Box3.hasPoint, Box3.join, rmin_eq_min, rmax_eq_max, min_le_iff, le_max_iff]
  rcases h with ⟨h1, h2, h3, h4, h5, h6⟩ | ⟨h1, h2, h3, h4, h5, h6⟩
  exacts [⟨.inl h1, .inl h2, .inl h3, .inl h4, .inl h5, .inl h6⟩, ⟨.inr h1, .inr h2, .inr h3, .inr h4, .inr h5, .inr h6⟩]

theorem Box3.contains_iff_hasPoint (b : Box3) (r : RayQ) (t : Rat) :
    b.contains r t ↔ b.hasPoint ⟨r.o.x + t * r.d.x, r.o.y + t * r.d.y, r.o.z + t * r.d.z⟩ := by
  simp only [Box3.contains, Box3.hasPoint, and_assoc]

theorem Box3.contains_join {a b : Box3} {r : RayQ} {t : Rat} (h : a.contains r t ∨ b.contains r t) :
    (a.join b).contains r t := by
  simp only [Box3.contains_iff_hasPoint] at h ⊢
  exact Box3.hasPoint_join h

theorem hitOpt_join {r : RayQ} {a b : Option Box3} (h : hitOpt r a = true ∨ hitOpt r b = true) :
    hitOpt r (joinOpt a b) = true := by
  cases a <;> cases b <;> simp only [hitOpt, joinOpt, Box3.hit_iff, Bool.false_eq_true, false_or, or_false] at h ⊢
  · exact h
  · exact h
  · obtain ⟨t, h0, hc⟩ | ⟨t, h0, hc⟩ := h
    exacts [⟨t, h0, Box3.contains_join (.inl hc)⟩, ⟨t, h0, Box3.contains_join (.inr hc)⟩]

/-- the exact slab test satisfies the three laws the tree logic needs -/
theorem boxLaws : Bvh.Laws boxOps where
  sound := fun _ _ _ h => hitOpt_join (.inr h)
  mono_l := fun _ _ _ h => hitOpt_join (.inl h)
  mono_r := fun _ _ _ h => hitOpt_join (.inr h)

end Cte
