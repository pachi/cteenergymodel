/-
`round2`, `round3` are `roundHalfAway (x * k) / k` at k = 100, 1000; the `roundGrid_*` lemmas are about that
expression: monotone, within half a step.  With `bias = 0`, `Fns.r2` and `Fns.r3` are these.
-/
import Cte.Model.Fns
import Mathlib.Tactic.Linarith
import Mathlib.Algebra.Order.Field.Basic
namespace Cte

theorem roundHalfAway_nonneg {x : Rat} (h : 0 ≤ x) : 0 ≤ roundHalfAway x := by
  rw [roundHalfAway, if_pos h]
  exact Rat.le_floor_iff.2 (add_nonneg h (by norm_num))

theorem roundHalfAway_nonpos {x : Rat} (h : x < 0) : roundHalfAway x ≤ 0 := by
  rw [roundHalfAway, if_neg (not_le.2 h)]
  exact neg_nonpos.2 (Rat.le_floor_iff.2 (add_nonneg (neg_nonneg.2 h.le) (by norm_num)))

theorem roundHalfAway_mono {x y : Rat} (h : x ≤ y) : roundHalfAway x ≤ roundHalfAway y := by
  by_cases hx : 0 ≤ x
  · rw [roundHalfAway, roundHalfAway, if_pos hx, if_pos (hx.trans h)]
    exact Rat.floor_monotone (add_le_add_left h _)
  · by_cases hy : 0 ≤ y
    · exact (roundHalfAway_nonpos (not_le.1 hx)).trans (roundHalfAway_nonneg hy)
    · rw [roundHalfAway, roundHalfAway, if_neg hx, if_neg hy]
      exact neg_le_neg (Rat.floor_monotone (add_le_add_left (neg_le_neg h) _))

theorem roundGrid_mono {k : Rat} (hk : 0 < k) {x y : Rat} (h : x ≤ y) :
    (roundHalfAway (x * k) : Rat) / k ≤ roundHalfAway (y * k) / k :=
  div_le_div_of_nonneg_right
    (Int.cast_le.2 (roundHalfAway_mono (mul_le_mul_of_nonneg_right h hk.le))) hk.le

theorem round2_mono {x y : Rat} (h : x ≤ y) : round2 x ≤ round2 y := roundGrid_mono (by norm_num) h

theorem round3_mono {x y : Rat} (h : x ≤ y) : round3 x ≤ round3 y := roundGrid_mono (by norm_num) h

theorem round2_nonneg {x : Rat} (h : 0 ≤ x) : 0 ≤ round2 x :=
  div_nonneg (Int.cast_nonneg (roundHalfAway_nonneg (mul_nonneg h (by norm_num)))) (by norm_num)

theorem floor_add_half_close (a : Rat) : |((a + 1 / 2).floor : Rat) - a| ≤ 1 / 2 := by
  have h2 := Rat.lt_floor_add_one (a + 1 / 2)
  push_cast at h2
  exact abs_le.2 ⟨by linarith, sub_le_iff_le_add'.2 (Rat.floor_le _)⟩

theorem roundHalfAway_close (x : Rat) : |(roundHalfAway x : Rat) - x| ≤ 1 / 2 := by
  unfold roundHalfAway
  split
  · exact floor_add_half_close x
  · rw [Int.cast_neg, ← neg_add', abs_neg, ← sub_neg_eq_add]
    exact floor_add_half_close (-x)

theorem roundGrid_close {k : Rat} (hk : 0 < k) (x : Rat) :
    |(roundHalfAway (x * k) : Rat) / k - x| ≤ 1 / 2 / k := by
  rw [div_sub' hk.ne', mul_comm k, abs_div, abs_of_pos hk]
  exact div_le_div_of_nonneg_right (roundHalfAway_close _) hk.le

theorem round2_close (x : Rat) : |round2 x - x| ≤ 1 / 200 :=
  (roundGrid_close (by norm_num) x).trans_eq (by norm_num)

theorem Fns.nudge_unbiased (F : Fns) (h : F.bias = 0) (x : Rat) : F.nudge x = x := by
  simp [Fns.nudge, h]

theorem Fns.r2_unbiased (F : Fns) (h : F.bias = 0) (x : Rat) : F.r2 x = round2 x := by
  rw [Fns.r2, Fns.nudge_unbiased F h]

theorem Fns.r3_unbiased (F : Fns) (h : F.bias = 0) (x : Rat) : F.r3 x = round3 x := by
  rw [Fns.r3, Fns.nudge_unbiased F h]

end Cte
