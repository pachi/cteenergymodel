/-
`build_blocks`: the parent of a block is the nearest preceding block of the enclosing class.  `assignParents` is tied to
`blocksFold` by `C18.blocksFold_texts`.
-/
import Cte.Model.Bdl

namespace Cte.Bdl

/-- the loop of `build_blocks` on blocks already parsed: each block gets its parent from the cursor and moves it -/
def assignParents : Cursor → List Block → List Block
  | _, [] => []
  | c, b :: t => { b with parent := (track c b.btype b.name).1 } :: assignParents (track c b.btype b.name).2 t

def lastName (k : Kind) (pre : List Block) : Option Str :=
  (pre.reverse.find? (fun b => kindOf b.btype = k)).map (·.name)

theorem lastName_cons (k : Kind) (b : Block) (pre : List Block) :
    lastName k (b :: pre) = (lastName k pre).or (if kindOf b.btype = k then some b.name else none) := by
  unfold lastName
  rw [List.reverse_cons, List.find?_append, Option.map_or, List.find?_singleton]
  by_cases hk : kindOf b.btype = k <;> simp [hk]

/-- `c`: the names in force before `pre` -/
def parentFrom (c : Cursor) (pre : List Block) (b : Block) : Option Str :=
  match kindOf b.btype with
  | .floor => none
  | .space => some ((lastName .floor pre).getD c.floor)
  | .wall => some ((lastName .space pre).getD c.space)
  | .child => some ((lastName .wall pre).getD c.wall)
  | .other => none

theorem parentFrom_nil (c : Cursor) (b : Block) : parentFrom c [] b = (track c b.btype b.name).1 := by
  unfold parentFrom track
  cases kindOf b.btype <;> rfl

theorem parentFrom_cons (c : Cursor) (x : Block) (pre : List Block) (b : Block) :
    parentFrom c (x :: pre) b = parentFrom (track c x.btype x.name).2 pre b := by
  unfold parentFrom track
  cases kindOf b.btype <;> simp only [lastName_cons, Option.getD_or] <;> cases kindOf x.btype <;> rfl

theorem assignParents_length (c : Cursor) (bs : List Block) : (assignParents c bs).length = bs.length := by
  induction bs generalizing c with
  | nil => rfl
  | cons b t ih => simp [assignParents, ih]

theorem assignParents_getElem (c : Cursor) (bs : List Block) (i : Nat) (h : i < bs.length) :
    (assignParents c bs)[i]'(by rw [assignParents_length]; exact h) =
      { bs[i] with parent := parentFrom c (bs.take i) bs[i] } := by
  induction bs generalizing c i with
  | nil => simp at h
  | cons b t ih =>
    cases i with
    | zero => simp only [assignParents, List.getElem_cons_zero, List.take_zero, parentFrom_nil]
    | succ j =>
      simp only [assignParents, List.getElem_cons_succ, List.take_succ_cons]
      rw [ih _ j (by simpa using h), parentFrom_cons]

end Cte.Bdl
