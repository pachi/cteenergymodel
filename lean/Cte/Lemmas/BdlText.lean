/-
Printed strings for the BDL parser model: padding (`AllPad`, `AllWs`), a padded core (`Clean`), stripping both ends
(`trim`, `trim_matches`), splitting at the first occurrence of a character.
-/
import Cte.Model.Bdl

namespace Cte.Bdl

/-- what a printer pads with -/
def AllPad (w : Str) : Prop := ∀ c ∈ w, c = ' ' ∨ c = '\t'
/-- what `str::trim` removes -/
def AllWs (w : Str) : Prop := ∀ c ∈ w, isWs c = true

/-- non-empty, neither end white space -/
def Clean (s : Str) : Prop :=
  (∃ c, s.head? = some c ∧ isWs c = false) ∧ (∃ c, s.getLast? = some c ∧ isWs c = false)

/-- `Clean` as a `Bool`, for `C18Kyg.fldOk` -/
def cleanB (s : Str) : Bool :=
  (match s.head? with | some c => !isWs c | none => false) && (match s.getLast? with | some c => !isWs c | none => false)

/-- the empty string has no ends -/
def NoQuoteEnds (v : Str) : Prop := (∀ c, v.head? = some c → c ≠ '"') ∧ (∀ c, v.getLast? = some c → c ≠ '"')

instance (w : Str) : Decidable (AllPad w) := by unfold AllPad; infer_instance
instance (w : Str) : Decidable (AllWs w) := by unfold AllWs; infer_instance
instance (s : Str) : Decidable (Clean s) := by unfold Clean; infer_instance
instance (v : Str) : Decidable (NoQuoteEnds v) := by unfold NoQuoteEnds; infer_instance

theorem clean_of_cleanB {s : Str} (h : cleanB s = true) : Clean s := by
  unfold cleanB at h
  cases hh : s.head? <;> cases hl : s.getLast? <;> simp_all [Clean]

theorem isWs_nl : isWs '\n' = true := by decide
theorem isWs_cr : isWs '\r' = true := by decide

theorem AllPad.allWs {w : Str} (h : AllPad w) : AllWs w := by
  intro c hc
  rcases h c hc with rfl | rfl <;> decide

theorem allWs_nil : AllWs [] := fun _ h => nomatch h
theorem allPad_nil : AllPad [] := fun _ h => nomatch h

theorem AllWs.append {a b : Str} (ha : AllWs a) (hb : AllWs b) : AllWs (a ++ b) :=
  fun c hc => (List.mem_append.mp hc).elim (ha c) (hb c)

/-! `trim` and `trimMatches c` are `fun s => ((s.dropWhile p).reverse.dropWhile p).reverse` at `p = isWs` and
`p = (· == c)`: one lemma serves both. -/
theorem dropWhile_pad {p : Char → Bool} {w s : Str} (hw : ∀ c ∈ w, p c = true)
    (hs : ∀ c, s.head? = some c → p c = false) : (w ++ s).dropWhile p = s := by
  rw [List.dropWhile_append_of_pos hw]
  cases s with
  | nil => rfl
  | cons a t => exact List.dropWhile_cons_of_neg (by simp [hs a rfl])

theorem takeWhile_pad {p : Char → Bool} {w s : Str} (hw : ∀ c ∈ w, p c = true)
    (hs : ∀ c, s.head? = some c → p c = false) : (w ++ s).takeWhile p = w := by
  rw [List.takeWhile_append_of_pos hw]
  cases s with
  | nil => simp
  | cons a t => rw [List.takeWhile_cons_of_neg (by simp [hs a rfl]), List.append_nil]

theorem strip_pad {p : Char → Bool} {w1 s w2 : Str} (h1 : ∀ c ∈ w1, p c = true) (h2 : ∀ c ∈ w2, p c = true)
    (hh : ∀ c, s.head? = some c → p c = false) (hl : ∀ c, s.getLast? = some c → p c = false) :
    (((w1 ++ s ++ w2).dropWhile p).reverse.dropWhile p).reverse = s := by
  cases s with
  | nil =>
    rw [← List.append_nil (w1 ++ [] ++ w2), dropWhile_pad (by simpa [or_imp, forall_and] using ⟨h1, h2⟩) (by simp)]
    rfl
  | cons a t =>
    rw [List.append_assoc, dropWhile_pad h1 (by simpa using hh a), List.reverse_append,
      dropWhile_pad (by simpa using h2) (fun c hc => hl c (List.head?_reverse ▸ hc)), List.reverse_reverse]

theorem trim_nil : trim [] = [] := rfl

theorem trim_pad {w1 s w2 : Str} (h1 : AllWs w1) (h2 : AllWs w2) (hs : Clean s) : trim (w1 ++ s ++ w2) = s := by
  obtain ⟨⟨a, ha, haw⟩, ⟨b, hb, hbw⟩⟩ := hs
  exact strip_pad h1 h2 (by simp [ha, haw]) (by simp [hb, hbw])

theorem trim_clean {s : Str} (hs : Clean s) : trim s = s := by
  simpa using trim_pad allWs_nil allWs_nil hs

theorem map_trim_clean {ls : List Str} (h : ∀ l ∈ ls, Clean l) : ls.map trim = ls :=
  (List.map_congr_left fun l hl => trim_clean (h l hl)).trans (List.map_id ls)

theorem trim_append_ws {w : Str} (hw : AllWs w) (s : Str) : trim (s ++ w) = trim s := by
  unfold trim trimL trimR
  rw [List.dropWhile_append]
  split
  · next h => rw [List.isEmpty_iff.mp h, ← List.append_nil w, List.dropWhile_append_of_pos hw]; rfl
  · rw [List.reverse_append, List.dropWhile_append_of_pos fun c hc => hw c (List.mem_reverse.mp hc)]

theorem trim_allWs {w : Str} (hw : AllWs w) : trim w = [] := trim_append_ws hw []

theorem trimMatches_noquote {s : Str} (h : NoQuoteEnds s) : trimMatches '"' s = s := by
  have := strip_pad (p := (· == '"')) (w1 := []) (w2 := []) (fun _ h => nomatch h) (fun _ h => nomatch h)
    (fun c hc => by simpa using h.1 c hc) (fun c hc => by simpa using h.2 c hc)
  rwa [List.nil_append, List.append_nil] at this

theorem trimMatches_quoted {s : Str} (h : NoQuoteEnds s) : trimMatches '"' ('"' :: (s ++ ['"'])) = s :=
  strip_pad (p := (· == '"')) (w1 := ['"']) (w2 := ['"']) (by simp) (by simp)
    (fun c hc => by simpa using h.1 c hc) (fun c hc => by simpa using h.2 c hc)

theorem Clean.ne_nil {s : Str} (h : Clean s) : s ≠ [] := by
  obtain ⟨⟨c, hc, _⟩, _⟩ := h
  rintro rfl
  simp at hc

theorem clean_singleton {c : Char} (h : isWs c = false) : Clean [c] := ⟨⟨c, rfl, h⟩, ⟨c, rfl, h⟩⟩

/-- only the two ends matter -/
theorem Clean.append {s t : Str} (hs : Clean s) (ht : Clean t) (m : Str) : Clean (s ++ m ++ t) := by
  obtain ⟨⟨a, ha, haw⟩, _⟩ := hs
  obtain ⟨_, ⟨b, hb, hbw⟩⟩ := ht
  exact ⟨⟨a, by simp [List.head?_append, ha], haw⟩, ⟨b, by simp [List.getLast?_append, hb], hbw⟩⟩

theorem clean_quoted (v : Str) : Clean ('"' :: (v ++ ['"'])) :=
  (clean_singleton (c := '"') (by decide)).append (clean_singleton (by decide)) v

theorem splitFirst_append {c : Char} {k : Str} (hk : c ∉ k) (v : Str) : splitFirst c (k ++ c :: v) = some (k, v) := by
  induction k with
  | nil => simp [splitFirst]
  | cons a t ih =>
    rw [List.mem_cons, not_or] at hk
    simp [splitFirst, Ne.symm hk.1, ih hk.2]

theorem splitFirst_none (c : Char) (s : Str) (h : c ∉ s) : splitFirst c s = none := by
  induction s with
  | nil => rfl
  | cons a t ih =>
    rw [List.mem_cons, not_or] at h
    simp [splitFirst, Ne.symm h.1, ih h.2]

end Cte.Bdl
