/-
`List.mapM` in the `Option` monad (the conversion's "every element or an error").
-/
namespace Cte
variable {α β : Type _} {f g : α → Option β} {l : List α} {out : List β}

theorem mapM_eq_some_iff : l.mapM f = some out ↔ l.map f = out.map some := by
  induction l generalizing out with
  | nil => cases out <;> simp
  | cons a t ih => cases out <;> simp [Option.bind_eq_some_iff, ih]

theorem mapM_congr (h : ∀ a ∈ l, f a = g a) : l.mapM f = l.mapM g :=
  Option.ext fun out => by rw [mapM_eq_some_iff, mapM_eq_some_iff, List.map_congr_left h]

theorem mapM_eq_some_map {k : α → β} (h : ∀ a ∈ l, f a = some (k a)) : l.mapM f = some (l.map k) := by
  rw [mapM_eq_some_iff, List.map_map]
  exact List.map_congr_left h

theorem mapM_eq_none {a : α} (ha : a ∈ l) (h : f a = none) : l.mapM f = none :=
  Option.eq_none_iff_forall_ne_some.2 fun out hm => by
    have := mapM_eq_some_iff.1 hm ▸ List.mem_map_of_mem (f := f) ha
    simp [h] at this

theorem mem_iff_of_mapM_eq_some (h : l.mapM f = some out) (b : β) : b ∈ out ↔ ∃ a ∈ l, f a = some b := by
  simpa using (congrArg (some b ∈ ·) (mapM_eq_some_iff.1 h)).symm

theorem mapM_map_eq_some_self_iff {γ} (enc : γ → α) (dec : α → Option γ) (xs : List γ) :
    (xs.map enc).mapM dec = some xs ↔ ∀ x ∈ xs, dec (enc x) = some x := by
  rw [mapM_eq_some_iff, List.map_map]
  exact List.map_inj_left

end Cte
