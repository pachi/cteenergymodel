/-
The monthly irradiation table `Gen.monthlyRad` (regenerated from the running code on every run) holds exactly
one well-formed row per (zone, orientation).  The kernel evaluates that once (`monthlyRad_wf`); everything C10 and
C20 say about the table follows from it.
-/
import Cte.Model.RadTable
import Cte.Model.Energy
import Cte.Gen.ZonesMeta
import Mathlib.Data.List.Nodup
namespace Cte

theorem filter_key_eq_singleton {α β} [DecidableEq β] {l : List α} {f : α → β} {m : List β}
    (hp : (l.map f).Perm m) (hm : m.Nodup) {b : β} (hb : b ∈ m) :
    ∃ a, l.filter (fun x => f x = b) = [a] := by
  have h := hp.count_eq b
  rw [List.count_eq_one_of_mem hm hb, List.count, List.countP_map, List.countP_eq_length_filter] at h
  exact List.length_eq_one_iff.1 (by simpa [Function.comp_def, beq_eq_decide] using h)

/-- twelve beam and twelve diffuse values, none negative; the sign is read off the numerator (`Rat.num_nonneg`) -/
def Gen.MonthlyRow.ok (r : Gen.MonthlyRow) : Bool :=
  r.dir.length = 12 && r.dif.length = 12 && r.dir.all (fun v => decide (0 ≤ v.num)) && r.dif.all (fun v => decide (0 ≤ v.num))

theorem Gen.MonthlyRow.ok_iff {r : Gen.MonthlyRow} :
    r.ok = true ↔ r.dir.length = 12 ∧ r.dif.length = 12 ∧ (∀ v ∈ r.dir, 0 ≤ v) ∧ ∀ v ∈ r.dif, 0 ≤ v := by
  simp only [Gen.MonthlyRow.ok, Bool.and_eq_true, decide_eq_true_eq, List.all_eq_true, Rat.num_nonneg, and_assoc]

theorem allOrients_count (o : Orient) : allOrients.count o = 1 := by cases o <;> rfl

theorem mem_allOrients (o : Orient) : o ∈ allOrients :=
  List.count_pos_iff.1 (allOrients_count o ▸ Nat.one_pos)

theorem zoneOrient_nodup : (Gen.zoneNames.map (·.1) ×ˢ allOrients).Nodup :=
  List.Nodup.product (by decide +kernel) (by decide)

/-- the one evaluation of the table; its rows may stand in any order -/
theorem monthlyRad_wf :
    (Gen.monthlyRad.map (fun r => (r.zone, r.orient))).Perm (Gen.zoneNames.map (·.1) ×ˢ allOrients) ∧
    Gen.monthlyRad.all Gen.MonthlyRow.ok = true := by
  decide +kernel

theorem monthlyRad_row {z : String} (hz : z ∈ Gen.zoneNames.map (·.1)) (o : Orient) :
    ∃ r, Gen.monthlyRad.filter (fun r => r.zone = z && r.orient = o) = [r] ∧ r.ok = true := by
  obtain ⟨r, hr⟩ := filter_key_eq_singleton monthlyRad_wf.1 zoneOrient_nodup (List.pair_mem_product.2 ⟨hz, mem_allOrients o⟩)
  refine ⟨r, ?_, List.all_eq_true.1 monthlyRad_wf.2 r (List.mem_of_mem_filter (hr ▸ List.mem_singleton_self r))⟩
  rw [← hr]; congr 1; funext x; simp [Prod.ext_iff]

end Cte
