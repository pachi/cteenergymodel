/-
`BdlBlock::from_str` on the text of one printed block.
-/
import Cte.Lemmas.BdlAttrs
import Cte.Lemmas.BdlSplit

namespace Cte.Bdl

/-- the pieces of a multi-line value are trimmed physical lines -/
def WVal.PiecesClean : WVal → Prop
  | .multi _ mids last => (∀ m ∈ mids, Clean m) ∧ Clean last
  | _ => True

theorem WAttr.lines_clean {a : WAttr} (h : a.WF) (hp : a.val.PiecesClean) : ∀ l ∈ a.lines, Clean l := by
  obtain ⟨k, p1, p2, w⟩ := a
  obtain ⟨hk, _, _, hv⟩ := h
  have first : ∀ v, Clean v → Clean (k ++ p1 ++ '=' :: (p2 ++ v)) := fun v hv => by
    simpa using hk.1.append hv (p1 ++ '=' :: p2)
  cases w with
  | bare v => simpa [WAttr.lines, attrLines] using first v hv.1
  | quoted v => simpa [WAttr.lines, attrLines] using first _ (clean_quoted v)
  | multi p0 mids last =>
    simp only [WAttr.lines, attrLines, List.mem_cons, List.mem_append, List.mem_nil_iff, or_false]
    rintro l (rfl | hl | rfl)
    · exact first p0 hv.1
    · exact hp.1 l hl
    · exact hp.2

theorem WAttr.lines_ne (a : WAttr) : a.lines ≠ [] := by
  unfold WAttr.lines attrLines
  cases a.val <;> simp

theorem attrsLines_clean {as : List WAttr} (hw : ∀ a ∈ as, a.WF ∧ a.val.PiecesClean) :
    ∀ l ∈ as.flatMap WAttr.lines, Clean l := by
  intro l hl
  obtain ⟨a, ha, hla⟩ := List.mem_flatMap.mp hl
  exact WAttr.lines_clean (hw a ha).1 (hw a ha).2 l hla

structure WBlock where
  name : Str
  btype : Str
  p1 : Str
  p2 : Str
  attrs : List WAttr

def WBlock.header (b : WBlock) : Str := '"' :: (b.name ++ '"' :: (b.p1 ++ '=' :: (b.p2 ++ b.btype)))
def WBlock.lines (b : WBlock) : List Str := b.header :: b.attrs.flatMap WAttr.lines
def WBlock.expected (b : WBlock) : Block :=
  { btype := b.btype, name := b.name, parent := none, attrs := storedAttrs [] b.attrs }

structure WBlock.WF (b : WBlock) : Prop where
  name_clean : Clean b.name
  /-- the header is split at its first `=` -/
  name_eq : '=' ∉ b.name
  name_quotes : NoQuoteEnds b.name
  type_known : knownType b.btype = true
  type_clean : Clean b.btype
  type_quotes : NoQuoteEnds b.btype
  pad1 : AllPad b.p1
  pad2 : AllPad b.p2
  /-- a one-line block is read by `from_str` as a bare type word (`LOADS-REPORT`), not as `name = TYPE` -/
  attrs_ne : b.attrs ≠ []
  attrs_wf : ∀ a ∈ b.attrs, a.WF ∧ a.val.PiecesClean
  /-- `lines()` would split a line at a line end -/
  no_eol : ∀ l ∈ b.lines, '\n' ∉ l ∧ '\r' ∉ l

theorem WBlock.attrsLines_ne (b : WBlock) (h : b.WF) : b.attrs.flatMap WAttr.lines ≠ [] := by
  obtain ⟨a, t, hb⟩ := List.exists_cons_of_ne_nil h.attrs_ne
  simp [hb, a.lines_ne]

theorem WBlock.header_clean (b : WBlock) (h : b.WF) : Clean b.header := by
  simpa [WBlock.header] using (clean_singleton (c := '"') (by decide)).append h.type_clean (b.name ++ '"' :: (b.p1 ++ '=' :: b.p2))

theorem WBlock.lines_clean (b : WBlock) (h : b.WF) : ∀ l ∈ b.lines, Clean l := by
  intro l hl
  rcases List.mem_cons.mp hl with rfl | hl
  · exact b.header_clean h
  · exact attrsLines_clean h.attrs_wf l hl

theorem WBlock.text_clean (b : WBlock) (h : b.WF) : Clean (blockText b.lines) :=
  clean_join (by simp [WBlock.lines]) (b.lines_clean h)

theorem parseAttributes_lines {as : List WAttr} (hw : ∀ a ∈ as, a.WF ∧ a.val.PiecesClean)
    (heol : ∀ l ∈ as.flatMap WAttr.lines, '\n' ∉ l ∧ '\r' ∉ l) :
    parseAttributes (joinWith ['\n'] (as.flatMap WAttr.lines)) = .ok (storedAttrs [] as) := by
  have hclean := attrsLines_clean hw
  unfold parseAttributes
  rw [linesOf_join heol (fun l hl => (hclean l hl).ne_nil), map_trim_clean hclean,
    attrFold_attrs [] fun a ha => (hw a ha).1]

theorem WBlock.text_eq (b : WBlock) (h : b.WF) :
    blockText b.lines = b.header ++ '\n' :: joinWith ['\n'] (b.attrs.flatMap WAttr.lines) := by
  simp [blockText, WBlock.lines, joinWith_cons (b.attrsLines_ne h)]

theorem parseBlock_text {b : WBlock} (h : b.WF) : parseBlock (blockText b.lines) = .ok b.expected := by
  have hrest_clean : Clean (joinWith ['\n'] (b.attrs.flatMap WAttr.lines)) :=
    clean_join (b.attrsLines_ne h) (attrsLines_clean h.attrs_wf)
  -- the header is a `key = value` line: key the quoted name, value the type
  have hkey : KeyWF ('"' :: (b.name ++ ['"'])) :=
    ⟨clean_quoted _, by simpa using h.name_eq⟩
  have hhead : '"' :: (b.name ++ ['"']) ++ b.p1 ++ '=' :: (b.p2 ++ b.btype) = b.header := by simp [WBlock.header]
  obtain ⟨hsplit, htrim_a, htrim_b⟩ := splitFirst_trim_line hkey h.pad1 h.pad2 h.type_clean
  rw [hhead] at hsplit
  unfold parseBlock
  rw [b.text_eq h, splitFirst_append (h.no_eol b.header (by simp [WBlock.lines])).1]
  simp only [trim_clean (b.header_clean h), trim_clean hrest_clean, hsplit, htrim_a, htrim_b,
    trimMatches_quoted h.name_quotes, trimMatches_noquote h.type_quotes, trim_clean h.name_clean, h.type_known, if_true]
  rw [parseAttributes_lines h.attrs_wf (fun l hl => h.no_eol l (by simp [WBlock.lines, hl]))]
  rfl

end Cte.Bdl
