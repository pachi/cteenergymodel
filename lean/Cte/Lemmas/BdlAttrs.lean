/-
`parse_attributes` on printed attribute lines: one-line values (bare or quoted) and parenthesised values over
several lines.
-/
import Cte.Lemmas.BdlText

namespace Cte.Bdl

/-- a value as written in the file (`W…`: written) -/
inductive WVal where
  | bare (v : Str)
  | quoted (v : Str)
  /-- first piece, middle pieces, closing piece -/
  | multi (p0 : Str) (mids : List Str) (last : Str)

/-- quotes are stripped before `AttrMap::insert` types the text -/
def WVal.stored : WVal → Val
  | .bare v => classify v
  | .quoted v => classify v
  | .multi p0 mids last => classify (p0 ++ mids.flatten ++ last)

/-- a one-line value that starts with `(` must end with `)`, else `parse_attributes` appends the following lines until
    one ends with `)`: hence also the conditions on `multi` -/
def WVal.WF : WVal → Prop
  | .bare v => Clean v ∧ NoQuoteEnds v ∧ (startsWith ['('] v = true → endsWith [')'] v = true)
  | .quoted v => NoQuoteEnds v
  | .multi p0 mids last =>
      Clean p0 ∧ startsWith ['('] p0 = true ∧ endsWith [')'] p0 = false ∧
      (∀ m ∈ mids, endsWith [')'] m = false) ∧ endsWith [')'] last = true

/-- the lines of one attribute; `p1`, `p2` pad the `=` -/
def attrLines (k p1 p2 : Str) : WVal → List Str
  | .bare v => [k ++ p1 ++ '=' :: (p2 ++ v)]
  | .quoted v => [k ++ p1 ++ '=' :: (p2 ++ '"' :: (v ++ ['"']))]
  | .multi p0 mids last => (k ++ p1 ++ '=' :: (p2 ++ p0)) :: (mids ++ [last])

/-- what `parse_attributes` finds left of the first `=`, trimmed -/
def KeyWF (k : Str) : Prop := Clean k ∧ '=' ∉ k

theorem eqSign_not_mem_pad {p : Str} (h : AllPad p) : '=' ∉ p :=
  fun m => (h _ m).elim (by decide) (by decide)

theorem splitFirst_trim_line {k p1 p2 v : Str} (hk : KeyWF k) (h1 : AllPad p1) (h2 : AllPad p2) (hv : Clean v) :
    splitFirst '=' (k ++ p1 ++ '=' :: (p2 ++ v)) = some (k ++ p1, p2 ++ v) ∧ trim (k ++ p1) = k ∧ trim (p2 ++ v) = v :=
  ⟨splitFirst_append (fun m => (List.mem_append.mp m).elim hk.2 (eqSign_not_mem_pad h1)) _,
    by simpa using trim_pad allWs_nil h1.allWs hk.1, by simpa using trim_pad h2.allWs allWs_nil hv⟩

theorem attrStep_line (m : List (Str × Val)) {k p1 p2 v : Str}
    (hk : KeyWF k) (h1 : AllPad p1) (h2 : AllPad p2) (hv : Clean v) :
    attrStep ⟨m, none⟩ (k ++ p1 ++ '=' :: (p2 ++ v)) =
      if startsWith ['('] v && !endsWith [')'] v then .ok ⟨m, some (k, v)⟩
      else .ok ⟨attrInsert m k (classify (trimMatches '"' v)), none⟩ := by
  have hne : ∀ l : Str, '=' ∉ l → (k ++ p1 ++ '=' :: (p2 ++ v) == l) = false :=
    fun l hl => beq_eq_false_iff_ne.mpr fun e => hl (e ▸ by simp)
  obtain ⟨hs, hk', hv'⟩ := splitFirst_trim_line hk h1 h2 hv
  simp only [attrStep, hne _ (by decide : '=' ∉ ['.', '.']), hne _ (by decide : '=' ∉ ['"']), Bool.or_self,
    Bool.false_eq_true, if_false, hs, hk', hv']

theorem attrFold_pending {mids : List Str} {last : Str} (hm : ∀ x ∈ mids, endsWith [')'] x = false)
    (hl : endsWith [')'] last = true) (m : List (Str × Val)) (k acc : Str) (more : List Str) :
    attrFold ⟨m, some (k, acc)⟩ (mids ++ last :: more) =
      attrFold ⟨attrInsert m k (classify (acc ++ mids.flatten ++ last)), none⟩ more := by
  induction mids generalizing acc with
  | nil =>
    simp only [List.nil_append, attrFold, attrStep, hl, if_true, List.flatten_nil, List.append_nil]
  | cons x t ih =>
    have hx : endsWith [')'] x = false := hm x (by simp)
    simp only [List.cons_append, attrFold, attrStep, hx, Bool.false_eq_true, if_false]
    rw [ih (fun y hy => hm y (by simp [hy])) (acc ++ x)]
    simp [List.append_assoc]

theorem attrFold_attr (m : List (Str × Val)) {k p1 p2 : Str} {w : WVal}
    (hk : KeyWF k) (h1 : AllPad p1) (h2 : AllPad p2) (hw : w.WF) (more : List Str) :
    attrFold ⟨m, none⟩ (attrLines k p1 p2 w ++ more) = attrFold ⟨attrInsert m k w.stored, none⟩ more := by
  cases w with
  | bare v =>
    obtain ⟨hc, hq, hpar⟩ := hw
    have hb : (startsWith ['('] v && !endsWith [')'] v) = false := by simpa using hpar
    simp only [attrLines, List.cons_append, List.nil_append, attrFold, attrStep_line m hk h1 h2 hc, hb,
      Bool.false_eq_true, if_false, trimMatches_noquote hq, WVal.stored]
  | quoted v =>
    have hb : startsWith ['('] ('"' :: (v ++ ['"'])) = false := rfl
    simp only [attrLines, List.cons_append, List.nil_append, attrFold, attrStep_line m hk h1 h2 (clean_quoted v),
      hb, Bool.false_and, Bool.false_eq_true, if_false, trimMatches_quoted hw, WVal.stored]
  | multi p0 mids last =>
    obtain ⟨hc, hs, he, hm, hl⟩ := hw
    simp only [attrLines, List.cons_append, attrFold, attrStep_line m hk h1 h2 hc, hs, he, Bool.not_false,
      Bool.and_self, if_true]
    rw [List.append_assoc, List.singleton_append, attrFold_pending hm hl m k p0 more]
    rfl

structure WAttr where
  key : Str
  p1 : Str
  p2 : Str
  val : WVal

def WAttr.WF (a : WAttr) : Prop := KeyWF a.key ∧ AllPad a.p1 ∧ AllPad a.p2 ∧ a.val.WF
def WAttr.lines (a : WAttr) : List Str := attrLines a.key a.p1 a.p2 a.val

def storedAttrs (init : List (Str × Val)) (as : List WAttr) : List (Str × Val) :=
  as.foldl (fun m a => attrInsert m a.key a.val.stored) init

theorem attrFold_attrs (m : List (Str × Val)) {as : List WAttr} (hw : ∀ a ∈ as, a.WF) :
    attrFold ⟨m, none⟩ (as.flatMap WAttr.lines) = .ok ⟨storedAttrs m as, none⟩ := by
  induction as generalizing m with
  | nil => rfl
  | cons a t ih =>
    obtain ⟨hk, h1, h2, hv⟩ := hw a (by simp)
    rw [List.flatMap_cons, WAttr.lines, attrFold_attr m hk h1 h2 hv, ih _ fun x hx => hw x (by simp [hx])]
    rfl

theorem storedAttrs_nodup (as : List WAttr) (init : List (Str × Val))
    (hn : (init.map (·.1) ++ as.map (·.key)).Nodup) :
    storedAttrs init as = init ++ as.map (fun a => (a.key, a.val.stored)) := by
  induction as generalizing init with
  | nil => simp [storedAttrs]
  | cons a t ih =>
    have hnot : init.any (·.1 == a.key) = false :=
      List.any_eq_false.mpr fun e he => by
        simpa using (List.nodup_append.mp hn).2.2 e.1 (List.mem_map_of_mem he) a.key (by simp)
    have hins : attrInsert init a.key a.val.stored = init ++ [(a.key, a.val.stored)] := by
      simp [attrInsert, hnot]
    rw [storedAttrs, List.foldl_cons, hins]
    simpa [storedAttrs] using ih (init ++ [(a.key, a.val.stored)]) (by simpa using hn)

end Cte.Bdl
