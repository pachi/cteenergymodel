/-
`AttrMap::insert` typing: written decimal numbers are read as numbers with the written digits.
-/
import Cte.Lemmas.BdlText

namespace Cte.Bdl

/-- ASCII digits, as `f32::from_str` accepts -/
def AllDigits (ds : Str) : Prop := ∀ c ∈ ds, isDigit c = true
/-- where a run of digits ends -/
def NonDigitHead (r : Str) : Prop := ∀ c, r.head? = some c → isDigit c = false

theorem nonDigitHead_nil : NonDigitHead [] := fun _ h => nomatch h
theorem nonDigitHead_cons {c : Char} {t : Str} (h : isDigit c = false) : NonDigitHead (c :: t) :=
  fun _ hd => Option.some.inj hd ▸ h

/-- `none`: no sign, `some true`: `-`, `some false`: `+` -/
def signStr : Option Bool → Str
  | none => []
  | some true => ['-']
  | some false => ['+']

def signNeg : Option Bool → Bool
  | some true => true
  | _ => false

theorem stripSign_sign (sg : Option Bool) (body : Str) (hb : ∀ c, body.head? = some c → c ≠ '-' ∧ c ≠ '+') :
    stripSign (signStr sg ++ body) = (signNeg sg, body) := by
  cases sg with
  | none =>
    -- last clause (no sign); side conditions: neither sign clause applies
    exact stripSign.eq_3 body (fun r h => (hb '-' (h ▸ rfl)).1 rfl) (fun r h => (hb '+' (h ▸ rfl)).2 rfl)
  | some b => cases b <;> rfl

theorem digit_not_sign {c : Char} (h : isDigit c = true) : c ≠ '-' ∧ c ≠ '+' := by
  constructor <;> (rintro rfl; revert h; decide)

/-- integer digits, then, if `dot`, a point and the fraction digits (`35`, `5.`, `.75`) -/
def mantStr (ip fp : Str) (dot : Bool) : Str := ip ++ (if dot then '.' :: fp else [])

theorem mantStr_head_ne_sign {ip : Str} (fp : Str) {dot : Bool} (rest : Str) (hi : AllDigits ip) (hhead : ip = [] → dot = true) :
    ∀ c, (mantStr ip fp dot ++ rest).head? = some c → c ≠ '-' ∧ c ≠ '+' := by
  intro c hc
  cases ip with
  | nil => simp [mantStr, hhead rfl] at hc; subst hc; decide
  | cons a t => simp [mantStr] at hc; subst hc; exact digit_not_sign (hi _ (by simp))

theorem fracPart_of_head_ne_dot {r : Str} (h : r.head? ≠ some '.') : fracPart r = ([], r) :=
  fracPart.eq_2 r fun _ e => h (e ▸ rfl)

theorem mantStr_takeWhile_fracPart {ip fp : Str} {dot : Bool} {rest : Str} (hi : AllDigits ip) (hf : AllDigits fp)
    (hdot : fp ≠ [] → dot = true) (hrest : NonDigitHead rest) (hrd : rest.head? ≠ some '.') :
    (mantStr ip fp dot ++ rest).takeWhile isDigit = ip ∧
    fracPart ((mantStr ip fp dot ++ rest).dropWhile isDigit) = (fp, rest) := by
  unfold mantStr
  cases dot with
  | true =>
    have hd : NonDigitHead ('.' :: (fp ++ rest)) := nonDigitHead_cons (by decide)
    simp only [if_true, List.append_assoc, List.cons_append, takeWhile_pad hi hd, dropWhile_pad hi hd, fracPart,
      takeWhile_pad hf hrest, dropWhile_pad hf hrest, and_self]
  | false =>
    have hfp : fp = [] := Classical.byContradiction fun h => absurd (hdot h) (by decide)
    subst hfp
    simp only [Bool.false_eq_true, if_false, List.append_nil, takeWhile_pad hi hrest, dropWhile_pad hi hrest,
      fracPart_of_head_ne_dot hrd, and_self]

/-- after sign and mantissa `parseF32` looks only at what follows: nothing, an exponent part, or no number -/
theorem parseF32_mant (sg : Option Bool) {ip fp : Str} {dot : Bool} {rest : Str}
    (hi : AllDigits ip) (hf : AllDigits fp) (hne : ip ++ fp ≠ []) (hdot : fp ≠ [] → dot = true) (hhead : ip = [] → dot = true)
    (hrest : NonDigitHead rest) (hrd : rest.head? ≠ some '.') :
    parseF32 (signStr sg ++ (mantStr ip fp dot ++ rest)) =
      match (generalizing := false) rest with
      | [] => some (Num.fin (signNeg sg) (digitsVal 0 (ip ++ fp)) (-(fp.length : Int)))
      | c :: t =>
        if c = 'e' || c = 'E' then
          (parseExp t).map (fun e => Num.fin (signNeg sg) (digitsVal 0 (ip ++ fp)) (e - fp.length))
        else none := by
  have hs := stripSign_sign sg _ (mantStr_head_ne_sign fp rest hi hhead)
  have hm := mantStr_takeWhile_fracPart hi hf hdot hrest hrd
  have hemp : (ip.isEmpty && fp.isEmpty) = false := by simpa using hne
  unfold parseF32
  simp only [hs, hm.1, hm.2, hemp, Bool.false_eq_true, if_false]
  cases rest <;> rfl

/-- `[sign] digits [. digits]`: the digits written, scaled by the number of decimals -/
theorem parseF32_decimal (sg : Option Bool) (ip fp : Str) (dot : Bool)
    (hi : AllDigits ip) (hf : AllDigits fp) (hne : ip ++ fp ≠ []) (hdot : fp ≠ [] → dot = true) (hhead : ip = [] → dot = true) :
    parseF32 (signStr sg ++ mantStr ip fp dot) =
      some (Num.fin (signNeg sg) (digitsVal 0 (ip ++ fp)) (-(fp.length : Int))) := by
  simpa using parseF32_mant sg hi hf hne hdot hhead nonDigitHead_nil nofun

theorem parseExp_digits (esg : Option Bool) (ed : Str) (hed : AllDigits ed) (hedne : ed ≠ []) :
    parseExp (signStr esg ++ ed) = some (if signNeg esg then -(digitsVal 0 ed : Int) else (digitsVal 0 ed : Int)) := by
  have hs := stripSign_sign esg ed fun c hc => digit_not_sign (hed c (List.mem_of_mem_head? hc))
  have hall : ed.all isDigit = true := List.all_eq_true.mpr hed
  have hemp : ed.isEmpty = false := by simpa using hedne
  unfold parseExp
  simp [hs, hall, hemp]

/-- with an exponent part `e[sign]digits` -/
theorem parseF32_exponent (sg : Option Bool) (ip fp : Str) (dot : Bool) (ec : Char) (esg : Option Bool) (ed : Str)
    (hi : AllDigits ip) (hf : AllDigits fp) (hne : ip ++ fp ≠ []) (hdot : fp ≠ [] → dot = true) (hhead : ip = [] → dot = true)
    (hec : ec = 'e' ∨ ec = 'E') (hed : AllDigits ed) (hedne : ed ≠ []) :
    parseF32 (signStr sg ++ (mantStr ip fp dot ++ ec :: (signStr esg ++ ed))) =
      some (Num.fin (signNeg sg) (digitsVal 0 (ip ++ fp))
        ((if signNeg esg then -(digitsVal 0 ed : Int) else (digitsVal 0 ed : Int)) - fp.length)) := by
  rw [parseF32_mant sg hi hf hne hdot hhead (nonDigitHead_cons (by rcases hec with rfl | rfl <;> decide))
    (by rcases hec with rfl | rfl <;> simp)]
  rcases hec with rfl | rfl <;> simp [parseExp_digits esg ed hed hedne]

/-- a number exactly when the value reads as a float, else the trimmed text -/
theorem classify_num (v : Str) (n : Num) (h : parseF32 v = some n) : classify v = Val.num n := by
  simp [classify, h]

theorem classify_str (v : Str) (h : parseF32 v = none) : classify v = Val.str (trim v) := by
  simp [classify, h]

example : parseF32 "+3.5".toList = some (Num.fin false 35 (-1)) := by rw [String.toList_ofList]; decide +kernel
example : parseF32 "-.75".toList = some (Num.fin true 75 (-2)) := by rw [String.toList_ofList]; decide +kernel
example : parseF32 "5.".toList = some (Num.fin false 5 0) := by rw [String.toList_ofList]; decide +kernel
example : parseF32 "1E-3".toList = some (Num.fin false 1 (-3)) := by rw [String.toList_ofList]; decide +kernel
example : parseF32 "2.5e+2".toList = some (Num.fin false 25 1) := by rw [String.toList_ofList]; decide +kernel
example : parseF32 "1e".toList = none := by rw [String.toList_ofList]; decide +kernel
example : parseF32 ".".toList = none := by rw [String.toList_ofList]; decide +kernel
example : parseF32 "1.2.3".toList = none := by rw [String.toList_ofList]; decide +kernel
example : parseF32 "SPACE-V1".toList = none := by rw [String.toList_ofList]; decide +kernel
example : parseF32 "Infinity".toList = some (Num.inf false) := by rw [String.toList_ofList]; decide +kernel
example : parseF32 "-nan".toList = some Num.nan := by rw [String.toList_ofList]; decide +kernel

end Cte.Bdl
