/-
A keyed list filtered by a test on the key still answers every lookup of a key that passes the test; each field
of `purge m` is such a filter of the field of `m` (bridges: by length), or the field itself.
-/
import Cte.Model.Purge
namespace Cte

/-- (Mathlib's `List.flatMap_congr`; no library here) -/
theorem flatMap_congr_mem {α β} {l : List α} {f g : α → List β} (h : ∀ x ∈ l, f x = g x) :
    l.flatMap f = l.flatMap g := by
  rw [List.flatMap_def, List.flatMap_def, List.map_congr_left h]

section FilterKey
variable {α : Type} {key : α → Id} {q : Id → Bool} {l : List α} {i : Id} (hi : q i = true)
include hi

theorem find?_filter_key :
    (l.filter (fun x => q (key x))).find? (fun x => key x = i) = l.find? (fun x => key x = i) := by
  rw [List.find?_filter]
  congr 1; funext x
  by_cases h : key x = i <;> simp [h, hi]

theorem contains_map_filter_key :
    ((l.filter (fun x => q (key x))).map key).contains i = (l.map key).contains i := by
  rw [Bool.eq_iff_iff]
  simp only [List.contains_iff_mem, List.mem_map, List.mem_filter]
  exact ⟨fun ⟨x, hx, e⟩ => ⟨x, hx.1, e⟩, fun ⟨x, hx, e⟩ => ⟨x, ⟨hx, e ▸ hi⟩, e⟩⟩

end FilterKey

/-- the `used` of `purgeSpaces` -/
def spacesUsed (m : Model) : List Id := m.walls.flatMap (fun w => w.space :: w.nextTo.toList)

theorem mem_spacesUsed {m : Model} {i : Id} :
    i ∈ spacesUsed m ↔ ∃ w ∈ m.walls, w.space = i ∨ w.nextTo = some i := by
  simp [spacesUsed, eq_comm]

/-! `cases m` first: on a variable, `rfl` starts by comparing `purge m` with `m` field by field. -/
@[simp] theorem purge_info (m : Model) : (purge m).info = m.info := by cases m; rfl
@[simp] theorem purge_walls (m : Model) : (purge m).walls = m.walls := by cases m; rfl
@[simp] theorem purge_windows (m : Model) : (purge m).windows = m.windows := by cases m; rfl
@[simp] theorem purge_shades (m : Model) : (purge m).shades = m.shades := by cases m; rfl
@[simp] theorem purge_overrides (m : Model) : (purge m).overrides = m.overrides := by cases m; rfl

/-! From `purge_materials` on, the right-hand sides mention `purge m`: each step of the code reads the ids in use off
the collections already purged. -/
theorem purge_spaces (m : Model) :
    (purge m).spaces = m.spaces.filter (fun s => (spacesUsed m).contains s.id) := by cases m; rfl
theorem purge_bridges (m : Model) : (purge m).thermalBridges =
    m.thermalBridges.filter (fun tb => decide (rabs tb.l > f32Eps)) := by cases m; rfl
theorem purge_wallcons (m : Model) : (purge m).cons.wallcons =
    m.cons.wallcons.filter (fun c => (m.walls.map (·.cons)).contains c.id) := by cases m; rfl
theorem purge_wincons (m : Model) : (purge m).cons.wincons =
    m.cons.wincons.filter (fun c => (m.windows.map (·.cons)).contains c.id) := by cases m; rfl
theorem purge_materials (m : Model) : (purge m).cons.materials = m.cons.materials.filter (fun x =>
    ((purge m).cons.wallcons.flatMap (fun c => c.layers.map (·.material))).contains x.id) := by
  cases m; rfl
theorem purge_glasses (m : Model) : (purge m).cons.glasses = m.cons.glasses.filter (fun x =>
    ((purge m).cons.wincons.map (·.glass)).contains x.id) := by cases m; rfl
theorem purge_frames (m : Model) : (purge m).cons.frames = m.cons.frames.filter (fun x =>
    ((purge m).cons.wincons.map (·.frame)).contains x.id) := by cases m; rfl
theorem purge_loads (m : Model) : (purge m).loads = m.loads.filter (fun x =>
    ((purge m).spaces.filterMap (·.loads)).contains x.id) := by cases m; rfl
theorem purge_thermostats (m : Model) : (purge m).thermostats = m.thermostats.filter (fun x =>
    ((purge m).spaces.filterMap (·.thermostat)).contains x.id) := by cases m; rfl
theorem purge_year (m : Model) : (purge m).schedules.year = m.schedules.year.filter (fun s =>
    (yearUsed (purge m).loads (purge m).thermostats).contains s.id) := by cases m; rfl
theorem purge_week (m : Model) : (purge m).schedules.week = m.schedules.week.filter (fun s =>
    ((purge m).schedules.year.flatMap (fun y => y.values.map (·.1))).contains s.id) := by
  cases m; rfl
theorem purge_day (m : Model) : (purge m).schedules.day = m.schedules.day.filter (fun s =>
    ((purge m).schedules.week.flatMap (fun w => w.values.map (·.1))).contains s.id) := by
  cases m; rfl

end Cte
