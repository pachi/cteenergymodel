/-
About the definitions of `Cte/Model/Energy.lean` and `Wall.resOf` (`Cte/Model/Sane.lean`).  Every arm of `Wall.uValue`
is a chain of `Option.bind` / `map` over its lookups ending in a leaf computation (`gndU`, `partU`, with `Space.ventU`:
proof-side definitions), so that "has a value ⇒ the lookups resolve" and "two models that agree on the lookups agree
on the U-value" need no unfolding.
-/
import Cte.Model.Sane
import Cte.Lemmas.Sum
namespace Cte

theorem ConsDb.getWallCons_some {db : ConsDb} {i : Id} {c : WallCons} (h : db.getWallCons i = some c) :
    c ∈ db.wallcons ∧ c.id = i :=
  ⟨List.mem_of_find?_eq_some h, by simpa using List.find?_some h⟩

theorem mem_wallsOf {s : Space} {w : Wall} {ws : List Wall} (h : w ∈ s.wallsOf ws) : w ∈ ws :=
  (List.mem_filter.1 h).1

theorem lastById_sublist {α} (id : α → Id) (l : List α) : (lastById id l).Sublist l := by
  unfold lastById
  induction l with
  | nil => exact .slnil
  | cons a t ih =>
    rw [lastById.go]
    split
    exacts [ih.cons _, ih.cons_cons _]

theorem lastById_subset {α} {id : α → Id} {l : List α} {x : α} (hx : x ∈ lastById id l) : x ∈ l :=
  (lastById_sublist id l).subset hx

theorem lastById_of_nodup {α} {id : α → Id} {l : List α} (h : (l.map id).Nodup) : lastById id l = l := by
  unfold lastById
  induction l with
  | nil => rfl
  | cons x t ih =>
    obtain ⟨hx, ht⟩ := List.nodup_cons.1 h
    have hnot : t.any (fun y => id y = id x) = false :=
      List.any_eq_false.2 fun y hy heq => hx (List.mem_map.2 ⟨y, hy, of_decide_eq_true heq⟩)
    rw [lastById.go, hnot, if_neg Bool.false_ne_true, ih ht]

/-- an entry's later namesakes pass or fail the test with it -/
theorem lastById_filter {α} (id : α → Id) (q : Id → Bool) (l : List α) :
    lastById id (l.filter (fun x => q (id x))) = (lastById id l).filter (fun x => q (id x)) := by
  unfold lastById
  induction l with
  | nil => rfl
  | cons a t ih =>
    simp only [lastById.go, List.filter_cons, apply_ite (List.filter _), ← ih]
    cases hq : q (id a) with
    | false => simp only [Bool.false_eq_true, if_false, ite_self]
    | true =>
      have : (t.filter fun x => q (id x)).any (fun y => id y = id a) = t.any (fun y => id y = id a) := by
        rw [List.any_filter]; congr 1; funext y
        exact Bool.and_eq_right_iff_imp.2 fun h => by rw [of_decide_eq_true h, hq]
      simp only [if_true, lastById.go, this]

theorem layerResistance_eq_some_iff {db : ConsDb} {l : Layer} {r : Rat} :
    layerResistance db l = some r ↔ ∃ mat, db.getMaterial l.material = some mat ∧
      ((∃ k d sh vd, mat.properties = .detailed k d sh vd ∧ 0 < k ∧ l.e / k = r) ∨
        ∃ vd, mat.properties = .resistance r vd) := by
  unfold layerResistance
  cases db.getMaterial l.material with
  | none => simp only [reduceCtorEq, false_and, exists_false]
  | some mat =>
    simp only [Option.some.injEq, exists_eq_left']
    cases mat.properties <;> simp

/-- the step of the fold in `WallCons.resistance` -/
def accR (db : ConsDb) (acc : Option Rat) (l : Layer) : Option Rat :=
  match acc, layerResistance db l with
  | some a, some r => some (a + r)
  | _, _ => none

theorem WallCons.resistance_eq_foldl (c : WallCons) (db : ConsDb) :
    c.resistance db = c.layers.foldl (accR db) (some 0) := rfl

theorem WallCons.resistance_congr {c : WallCons} {db db' : ConsDb}
    (h : ∀ l ∈ c.layers, layerResistance db' l = layerResistance db l) : c.resistance db' = c.resistance db :=
  List.foldl_ext _ _ _ fun _ l hl => by rw [h l hl]

theorem foldl_accR (db : ConsDb) (ls : List Layer) (a : Option Rat) :
    ls.foldl (accR db) a = a.bind fun x => (ls.mapM (layerResistance db)).map (x + rsum ·) := by
  induction ls generalizing a with
  | nil => cases a <;> simp
  | cons l t ih =>
    rw [List.foldl_cons, ih, List.mapM_cons]
    unfold accR
    cases a <;> cases layerResistance db l <;> cases t.mapM (layerResistance db) <;> try rfl
    exact congrArg some (by simp only [rsum_cons, add_assoc])

theorem WallCons.resistance_append (c : WallCons) (db : ConsDb) (l : Layer) :
    ({ c with layers := c.layers ++ [l] } : WallCons).resistance db =
      (c.resistance db).bind fun r => (layerResistance db l).map (r + ·) := by
  simp only [resistance_eq_foldl, List.foldl_append, List.foldl_cons, List.foldl_nil, accR]
  cases c.layers.foldl (accR db) (some 0) <;> cases layerResistance db l <;> rfl

/-! ## surface resistances (transmittance.rs:26-29) -/
theorem rsiOf_pos (t : TiltC) : 0 < rsiOf t := by cases t <;> decide +kernel

theorem partitionRsi_pos (tc nc : Bool) (t : TiltC) : 0 < partitionRsi tc nc t := by
  cases tc <;> cases nc <;> cases t <;> decide +kernel

theorem RSE_pos : 0 < RSE := by decide +kernel

theorem uExteriorRaw_den_pos (t : TiltC) {r : Rat} (h : 0 ≤ r) : 0 < r + rsiOf t + RSE :=
  add_pos (add_pos_of_nonneg_of_pos h (rsiOf_pos t)) RSE_pos

/-! `Space.slabDt` is the area-weighted mean of the d_t of the ground slabs of a space: `Space.groundSlabs` and
`Wall.slabDt` name its two parts (proof-side definitions, not part of the model). -/

/-- `ground_slabs` of `slab_d_t` -/
def Space.groundSlabs (s : Space) (walls : List Wall) : List Wall :=
  (s.wallsOf walls).filter (fun w => w.tiltC = .bottom && w.bounds = .ground)

/-- d_t of one slab, `W + LAMBDA_GND * (RSI_DESCENDENTE + resistance + RSE)` with W = 0.30 m for the basement walls
(UNE-EN ISO 13370:2010 9.3.2 (10)); a construction that does not resolve counts with resistance 0 -/
def Wall.slabDt (w : Wall) (db : ConsDb) : Rat :=
  3 / 10 + LAMBDA_GND * (RSI_DESC + ((db.getWallCons w.cons).bind (·.resistance db)).getD 0 + RSE)

theorem Space.mem_of_mem_groundSlabs {s : Space} {walls : List Wall} {w : Wall} (h : w ∈ s.groundSlabs walls) :
    w ∈ walls :=
  mem_wallsOf (List.mem_filter.1 h).1

theorem Space.slabDt_eq_some_iff {s : Space} {walls : List Wall} {db : ConsDb} {dt : NV} :
    s.slabDt walls db = some dt ↔ s.groundSlabs walls ≠ [] ∧
      dt = { v := rsum ((s.groundSlabs walls).map fun w => w.area * w.slabDt db) /
                    rsum ((s.groundSlabs walls).map Wall.area),
             nf := rsum ((s.groundSlabs walls).map Wall.area) = 0 } := by
  unfold Space.slabDt
  simp only [Option.ite_none_left_eq_some, Option.some.injEq, List.isEmpty_iff, eq_comm (a := dt)]
  rfl

theorem Wall.slabDt_pos {w : Wall} {db : ConsDb}
    (h : ∀ c r, db.getWallCons w.cons = some c → c.resistance db = some r → 0 ≤ r) : 0 < w.slabDt db := by
  have := getD_zero_nonneg fun r hq =>
    have ⟨c, hc, hr⟩ := Option.bind_eq_some_iff.1 hq
    h c r hc hr
  unfold Wall.slabDt LAMBDA_GND RSI_DESC RSE
  positivity

/-- `u_value_interior_cond_uncond` for a finite ventilation rate and a loss coefficient `H_ue = UA_e_k + 0.33 * q_ue`
≠ 0 (0.33 Wh/m³K: what 1 m³/h of air carries per kelvin; the code cites formula (17) of UNE-EN ISO 6946:2007 §5.4.3) -/
theorem uCondUncond_fin {F : Fns} {ai rf ua vol n : Rat} (h : ua + 33 / 100 * (vol * n) ≠ 0) :
    uCondUncond F ai rf ua vol (.fin n) =
      { v := F.r2 (1 / (rf + ai / (ua + 33 / 100 * (vol * n)))),
        nf := rf + ai / (ua + 33 / 100 * (vol * n)) = 0 } :=
  if_neg h

/-! Proof-side definitions, not part of the model: what an arm of `Wall.uValue` does once its lookups have resolved. -/

/-- the `match w.tiltC` of the GROUND arm, over the arm's `let`s in the model's order and names: air-contact U
`uw`, equivalent thickness `dt`, perimeter term `psi`, characteristic dimension `cd`, net height `hNet`, depth `z` -/
def gndU (F : Fns) (t : TiltC) (uw : Rat) (dt psi : NV) (cd hNet z : Rat) : NV :=
  match t with
  | .top => { v := uw }
  | .bottom =>
    let r := uGndSlab F z dt.v cd psi.v
    { v := r.v, nf := r.nf || dt.nf || psi.nf }
  | .side =>
    let r := uGndWall F z uw dt.v hNet
    { v := r.v, nf := r.nf || (dt.nf && ¬ rabs z < 1 / 100) }

/-- ventilation rate of a space as the partition formula reads it: its own, else the building's.  `Wall.uValue`,
`uncondOKb` (Model/Sane.lean) and `C14.UncondOK` each spell this `match` out. -/
def Space.ventU (F : Fns) (s : Space) (m : Model) : Vent :=
  match s.nV with
  | some n => .fin n
  | none => m.globalVentilationU F

/-- the INTERIOR arm with a neighbour, over what the arm has computed: `tc`, `nc` say which side is conditioned,
`ua`, `vol`, `nv` are those of the unconditioned side -/
def partU (F : Fns) (ai rf : Rat) (tc nc : Bool) (ua : NV) (vol : Rat) (nv : Vent) : NV :=
  if tc = nc then { v := F.r2 (1 / rf), nf := rf = 0 }
  else
    let r := uCondUncond F ai rf ua.v vol nv
    { v := r.v, nf := r.nf || ua.nf }

/-! Every arm binds `Wall.resOf` first, so that all start alike; the INTERIOR arm of the model tests the resistance
last, which is immaterial: every failure is `none`. -/

theorem Wall.resOf_eq_some_iff {w : Wall} {m : Model} {r : Rat} :
    w.resOf m = some r ↔ ∃ c, m.cons.getWallCons w.cons = some c ∧ c.resistance m.cons = some r :=
  Option.bind_eq_some_iff

variable {F : Fns} {w : Wall} {m : Model}

theorem Wall.uValue_of_not_interior (h : w.bounds ≠ .interior) : w.uValue F m = w.uNonInterior F m := by
  unfold Wall.uValue; cases hb : w.bounds <;> first | rfl | exact absurd hb h

/-- the arm of every boundary but GROUND; the model never raises `nf` in it -/
theorem Wall.uNonInterior_air (h : w.bounds ≠ .ground) :
    w.uNonInterior F m = (w.resOf m).map fun r => { v := F.r2 (uExteriorRaw w.tiltC r) } := by
  unfold Wall.uNonInterior Wall.resOf
  cases m.cons.getWallCons w.cons with
  | none => rfl
  | some c =>
    -- `uExterior` is a `map` over the resistance, and the arm maps once more
    cases hb : w.bounds <;> first | exact absurd hb h | exact Option.map_map ..

theorem Wall.uValue_air (h : w.bounds = .exterior ∨ w.bounds = .adiabatic) :
    w.uValue F m = (w.resOf m).map fun r => { v := F.r2 (uExteriorRaw w.tiltC r) } := by
  rw [Wall.uValue_of_not_interior (by rcases h with h | h <;> simp [h]),
    Wall.uNonInterior_air (by rcases h with h | h <;> simp [h])]

/-- `uw` is the model's `w.uExterior F (some r)` written out -/
theorem Wall.uNonInterior_ground (h : w.bounds = .ground) :
    w.uNonInterior F m = (w.resOf m).bind fun r => (m.getSpace w.space).bind fun sp =>
      (sp.slabDt m.walls m.cons).map fun dt =>
        let uw := F.r2 (uExteriorRaw w.tiltC r)
        let psi := slabPsi F m dt.v
        let cd := (sp.slabCharDim F m.walls m.spaces).getD 0
        let hNet := sp.heightNet F m.walls m.cons
        let z := rmax (-sp.z) 0
        gndU F w.tiltC uw dt psi cd hNet z := by
  unfold Wall.uNonInterior Wall.resOf gndU
  rw [h]
  cases m.cons.getWallCons w.cons with
  | none => rfl
  | some c =>
    dsimp only [Wall.uExterior, Option.bind_some]
    cases c.resistance m.cons with
    | none => rfl
    | some r =>
      cases m.getSpace w.space with
      | none => rfl
      | some sp =>
        dsimp only [Option.map_some, Option.bind_some]
        cases sp.slabDt m.walls m.cons with
        | none => rfl
        | some dt => cases w.tiltC <;> rfl

theorem Wall.uValue_interior_alone (h : w.bounds = .interior) (hn : w.nextTo = none) :
    w.uValue F m = (w.resOf m).bind fun r => (m.getSpace w.space).map fun _ =>
      { v := F.r2 (1 / (r + 2 * rsiOf w.tiltC)), nf := r + 2 * rsiOf w.tiltC = 0 } := by
  unfold Wall.uValue Wall.resOf
  rw [h, hn]
  cases m.cons.getWallCons w.cons with
  | none => rfl
  | some c =>
    dsimp only [Option.bind_some]
    cases c.resistance m.cons <;> cases m.getSpace w.space <;> rfl

/-- `un` is the unconditioned side -/
theorem Wall.uValue_interior_next {nid : Id} (h : w.bounds = .interior) (hn : w.nextTo = some nid) :
    w.uValue F m = (w.resOf m).bind fun r => (m.getSpace w.space).bind fun sp => (m.getSpace nid).map fun nx =>
      let tc := decide (sp.kind = .conditioned)
      let nc := decide (nx.kind = .conditioned)
      let un := if tc then nx else sp
      partU F w.area (r + 2 * partitionRsi tc nc w.tiltC) tc nc (un.uaExt F m)
        (un.area m.walls * un.heightNet F m.walls m.cons) (un.ventU F m) := by
  unfold Wall.uValue Wall.resOf partU Space.ventU
  rw [h, hn]
  cases m.cons.getWallCons w.cons with
  | none => rfl
  | some c =>
    dsimp only [Option.bind_some]
    cases c.resistance m.cons <;> cases m.getSpace w.space <;> cases m.getSpace nid <;> try rfl
    -- all resolve: the model's `if` sits outside `some`, ours inside
    exact (apply_ite some ..).symm

theorem Wall.uNonInterior_none_of_resOf (h : w.resOf m = none) : w.uNonInterior F m = none := by
  by_cases hb : w.bounds = .ground
  · rw [Wall.uNonInterior_ground hb, h]; rfl
  · rw [Wall.uNonInterior_air hb, h]; rfl

theorem Wall.uValue_none_of_resOf (h : w.resOf m = none) : w.uValue F m = none := by
  by_cases hb : w.bounds = .interior
  · cases hn : w.nextTo with
    | none => rw [Wall.uValue_interior_alone hb hn, h]; rfl
    | some nid => rw [Wall.uValue_interior_next hb hn, h]; rfl
  · rw [Wall.uValue_of_not_interior hb, Wall.uNonInterior_none_of_resOf h]

end Cte
