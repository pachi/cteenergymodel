/-
C09 (sign, monotonicity, scaling) — corollaries of the DB-HE formula `n50Formula`: with non-negative
permeabilities and areas and a positive volume the reference n50 is non-negative, it grows with the
opaque permeability C_o and with the windows' Σ C_h·A_h, and scaling every length by s (areas s²,
volume s³) divides it by s (the compactness effect: larger buildings of the same shape are tighter).
-/
import Cte.Props.C09
import Mathlib.Algebra.Order.Field.Basic
import Mathlib.Tactic.Linarith
import Mathlib.Tactic.Positivity
import Mathlib.Tactic.FieldSimp
namespace Cte.C09

theorem n50Formula_nonneg (cO aO cAH vol : Rat) (h1 : 0 ≤ cO) (h2 : 0 ≤ aO) (h3 : 0 ≤ cAH) (hv : 0 < vol) :
    0 ≤ n50Formula cO aO cAH vol := by
  unfold n50Formula; positivity

theorem n50Formula_mono_cO (cO cO2 aO cAH vol : Rat) (h : cO ≤ cO2) (h2 : 0 ≤ aO) (hv : 0 < vol) :
    n50Formula cO aO cAH vol ≤ n50Formula cO2 aO cAH vol := by
  unfold n50Formula; gcongr

theorem n50Formula_mono_cAH (cO aO cAH cAH2 vol : Rat) (h : cAH ≤ cAH2) (hv : 0 < vol) :
    n50Formula cO aO cAH vol ≤ n50Formula cO aO cAH2 vol := by
  unfold n50Formula; gcongr

/-- lengths × s: areas × s², volume × s³, n50 ÷ s -/
theorem n50Formula_scale (s cO aO cAH vol : Rat) (hs : s ≠ 0) (hv : vol ≠ 0) :
    n50Formula cO (s * s * aO) (s * s * cAH) (s * s * s * vol) = n50Formula cO aO cAH vol / s := by
  unfold n50Formula
  field_simp

/-- on every branch, volume guard included -/
theorem n50Ref_nonneg (walls : List WallP) (wins : List WinP) (wc : List WinConsP) (vol cO : Rat)
    (test : Option Rat) (h1 : 0 ≤ cO) (h2 : 0 ≤ aO walls) (h3 : 0 ≤ cAH walls wins wc) :
    0 ≤ (n50Data walls wins wc vol cO test).n50Ref := by
  by_cases hv : vol > 1 / 1000
  · rw [n50ref_eq_spec walls wins wc vol cO test hv]
    exact n50Formula_nonneg _ _ _ _ h1 h2 h3 (lt_trans (by norm_num) hv)
  · rw [n50_zero_volume walls wins wc vol cO test (not_lt.mp hv)]

example : n50Formula 16 100 500 300 = 629 / 1000 * 2100 / 300 := by decide +kernel
example : n50Formula 16 (2 * 2 * 100) (2 * 2 * 500) (2 * 2 * 2 * 300) = n50Formula 16 100 500 300 / 2 := by decide +kernel

end Cte.C09
