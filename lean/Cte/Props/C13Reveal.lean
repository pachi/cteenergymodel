/-
  C13 (last clause) — the reveal surfaces generated for a set-back window (`Window::shades_for_setback`,
  bemodel/src/types/window.rs) span exactly the gap between the wall plane and the window plane along the window's edges.

  The wall's pose is (position, azimuth, tilt) as (cos, sin) pairs; `wallToWorld` is `to_global_coords_matrix` on a point of the
  wall's own frame (x along the wall, y up the wall, z the outward normal: the window plane is at z = −setback).
-/
import Cte.Lemmas.Rot

namespace Cte.Props.C13Reveal
open Cte.Place

/-- **the four generated surfaces are exactly the four rectangles between the wall plane (z = 0) and the window plane (z = −s)
    along the window's edges**, in the wall's frame, for every pose -/
theorem reveals_span_gap (pos : Vec3) (az t : Ang) (x y w h s : Rat) :
    reveals pos az t x y w h s =
      [ [⟨x, y + h, 0⟩, ⟨x, y + h, -s⟩, ⟨x + w, y + h, -s⟩, ⟨x + w, y + h, 0⟩].map (wallToWorld pos az t),
        [⟨x, y + h, 0⟩, ⟨x, y, 0⟩, ⟨x, y, -s⟩, ⟨x, y + h, -s⟩].map (wallToWorld pos az t),
        [⟨x + w, y + h, 0⟩, ⟨x + w, y + h, -s⟩, ⟨x + w, y, -s⟩, ⟨x + w, y, 0⟩].map (wallToWorld pos az t),
        [⟨x, y, 0⟩, ⟨x + w, y, 0⟩, ⟨x + w, y, -s⟩, ⟨x, y, -s⟩].map (wallToWorld pos az t) ] := by
  unfold reveals
  simp only [List.map_cons, List.map_nil, toGlobal_tilt_add, toGlobal_az_add_half, toGlobal_az_sub_half]
  simp [Ang.half, Ang.neg, sub_eq_add_neg]

/-- the head reveal of a concrete window (x = 3, y = 1, 2 × 1 m, set back 0.2 m) on a south wall at the origin -/
example : [(0, 0), (0, -(1 / 5 : Rat)), (2, -(1 / 5)), (2, 0)].map
      (fun p => toGlobal (wallToWorld ⟨0, 0, 0⟩ Ang.zero Ang.half ⟨3, 1 + 1, 0⟩) Ang.zero (Ang.add Ang.half Ang.half) p.1 p.2) =
    [⟨3, 0, 2⟩, ⟨3, 1 / 5, 2⟩, ⟨5, 1 / 5, 2⟩, ⟨5, 0, 2⟩] := by decide +kernel

/-- before the repair (finding F-C13d) the jambs' pose kept the wall's tilt and their polygon was not turned, which is right on
    vertical walls only: on a horizontal wall (a skylight, tilt 0) the left jamb's point (setback, 0) landed in the roof plane,
    not below it -/
theorem left_reveal_horizontal_old_code_counterexample :
    toGlobal (wallToWorld ⟨0, 0, 3⟩ Ang.zero Ang.zero ⟨1, 2, 0⟩) (Ang.add Ang.zero Ang.half) Ang.zero (3 / 10) 0 = ⟨1, 23 / 10, 3⟩ ∧
    wallToWorld ⟨0, 0, 3⟩ Ang.zero Ang.zero ⟨1, 2, -(3 / 10)⟩ = ⟨1, 2, 27 / 10⟩ := by
  constructor <;> decide +kernel

end Cte.Props.C13Reveal
