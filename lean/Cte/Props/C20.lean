/-
C20 — Solar geometry, radiation identities and embedded climate tables are consistent.
-/
import Cte.Model.Solar
import Cte.Lemmas.RadTable
import Cte.Gen.JulyRad
import Cte.Gen.ZonesMeta
import Cte.Props.C17
import Cte.Lemmas.Num
import Mathlib.Tactic.LinearCombination
import Mathlib.Tactic.Ring
import Mathlib.Tactic.Linarith
namespace Cte.C20

theorem nday_eq_ordinal {day month : Nat} (h12 : month ≤ 12) (hd : day ≤ 31) :
    ndayFromMd month day = some (C17.ordinal day month) := by
  have e : MONTH_DAYS = (List.range 12).map (fun k => C17.daysIn (k + 1)) := rfl
  rw [ndayFromMd, if_pos ⟨Nat.lt_succ_of_le h12, hd⟩, C17.ordinal, e, ← List.map_take, List.take_range,
    Nat.min_eq_left ((Nat.sub_le _ _).trans h12)]

theorem nday_calendar : ∀ dm ∈ C17.allDates, ndayFromMd dm.2 dm.1 = some (C17.ordinal dm.1 dm.2) := by
  intro dm h
  obtain ⟨-, h12, -, hd⟩ := C17.of_mem_allDates h
  exact nday_eq_ordinal h12 (hd.trans (C17.daysIn_le _))

/-- the two day-of-year functions of the workspace (converter and climate) agree on every date -/
theorem nday_agrees_with_converter : ∀ dm ∈ C17.allDates, (ndayFromMd dm.2 dm.1).map Int.ofNat = some (dayOfYear dm.1 dm.2) :=
  fun dm h => by rw [nday_calendar dm h, C17.day_of_year_calendar dm h]; rfl

/-- unit angles: c² + s² = 1 (the same as `Place.Ang.Unit` of `Model/Placement.lean`, which this module does not import) -/
def isUnit (a : Ang) : Prop := a.c * a.c + a.s * a.s = 1

theorem sunVec_unit (d h w : Ang) (hd : isUnit d) (hh : isUnit h) (hw : isUnit w) :
    (sunVec d h w).dot (sunVec d h w) = 1 := by
  unfold isUnit at hd hh hw
  simp only [sunVec, Vec3.dot, sunEast, sunSouth, sunUp]
  -- |v|² = cos²δ·(sin²ω + cos²ω·(sin²φ + cos²φ)) + sin²δ·(cos²φ + sin²φ)
  linear_combination (d.c * d.c * (h.c * h.c) + d.s * d.s) * hw + d.c * d.c * hh + hd

theorem altitude_is_elevation (d h w : Ang) : sinAltitude d h w = (sunVec d h w).z := rfl

theorem surfaceNormal_eq (b g : Ang) : surfaceNormal b g = ⟨b.s * g.s, -(b.s * g.c), b.c⟩ := by
  simp only [surfaceNormal, rotZ, rotX]
  congr 1 <;> ring

/-- the code's five-term expression is the dot product of the sun direction and
the surface's outward normal -/
theorem incidence_is_angle (d h w b g : Ang) :
    cosIncidence d h w b g = (surfaceNormal b g).dot (sunVec d h w) := by
  rw [surfaceNormal_eq]
  simp only [cosIncidence, Vec3.dot, sunVec, sunEast, sunSouth, sunUp]
  ring

/-- a surface that faces the sun (tilt = zenith angle, azimuth =
sun azimuth) has its normal along the ray towards the sun: both use south = −y, east = +x -/
theorem ray_dir_matches_normal_convention (az alt : Ang) :
    surfaceNormal ⟨alt.s, alt.c⟩ az = rayDirToSun az alt := by
  rw [surfaceNormal_eq]; rfl

/-- a conditional: an azimuth/altitude pair with sin(alt) = up and cos(alt)·(sin az, cos az) = (east, south) gives the sun
vector as ray direction; that the code's azimuth and altitude satisfy this is not shown -/
theorem azimuth_is_bearing (d h w az alt : Ang) (hs : alt.s = sunUp d h w)
    (he : alt.c * az.s = sunEast d h) (hso : alt.c * az.c = sunSouth d h w) :
    rayDirToSun az alt = sunVec d h w := by
  simp only [rayDirToSun, sunVec, he, hso, hs]

/-- horizontal surface: incidence angle = zenith angle -/
theorem incidence_horizontal (d h w g : Ang) : cosIncidence d h w ⟨1, 0⟩ g = sinAltitude d h w := by
  simp only [cosIncidence, sinAltitude]; ring

/-- downward-facing surface: the sun is behind it whenever it is above the horizon -/
theorem incidence_downward (d h w g : Ang) : cosIncidence d h w ⟨-1, 0⟩ g = -(sinAltitude d h w) := by
  simp only [cosIncidence, sinAltitude]; ring

/-- the circumsolar part is only moved from the diffuse to the beam total -/
theorem dirTot_add_difTot (r : RadIn) : r.dirTot + r.difTot = r.iDir + r.iDif + r.iGround := by
  unfold RadIn.dirTot RadIn.difTot; ring

/-- on a horizontal surface with the sun at least 5° high (so that a = b)
beam + diffuse received equals beam + diffuse horizontal input -/
theorem horizontal_conservation (r : RadIn) (ht : r.tilt = ⟨1, 0⟩) (hs : 0 < r.sinAlt)
    (hinc : r.cosInc = r.sinAlt) (hzen : r.cosZen = r.sinAlt) (h85 : r.cos85 ≤ r.sinAlt)
    (hd : 0 ≤ r.dirHor) : r.dirTot + r.difTot = r.dirHor + r.difHor := by
  have ha : r.a = r.sinAlt := by rw [RadIn.a, rmax_eq_max, hinc, max_eq_right hs.le]
  have hb : r.b = r.sinAlt := by rw [RadIn.b, rmax_eq_max, hzen, max_eq_right h85]
  have hdir : r.iDir = r.dirHor := by
    rw [RadIn.iDir, RadIn.beam, rmax_eq_max, hinc, div_mul_cancel₀ _ hs.ne', max_eq_right hd]
  rw [dirTot_add_difTot, hdir, RadIn.iDif, RadIn.iGround, ha, hb, ht, mul_div_cancel_right₀ _ hs.ne']
  ring

/-- a surface facing down receives exactly albedo × global horizontal radiation (`hsp` gives `hs`) -/
theorem downward_albedo (r : RadIn) (ht : r.tilt = ⟨-1, 0⟩) (hs : r.sinAlt ≠ 0) (hst : r.sinAltTrue = r.sinAlt)
    (hinc : r.cosInc ≤ 0) (hd : 0 ≤ r.dirHor) (hsp : 0 < r.sinAlt) :
    r.dirTot + r.difTot = r.albedo * (r.dirHor + r.difHor) := by
  have ha : r.a = 0 := by rw [RadIn.a, rmax_eq_max, max_eq_left hinc]
  have hdir : r.iDir = 0 := by
    rw [RadIn.iDir, rmax_eq_max]
    exact max_eq_left (mul_nonpos_of_nonneg_of_nonpos (div_nonneg hd hsp.le) hinc)
  rw [dirTot_add_difTot, hdir, RadIn.iDif, RadIn.iGround, ha, ht, hst, RadIn.beam, div_mul_cancel₀ _ hs]
  ring

theorem beam_nonneg (r : RadIn) (hdif : 0 ≤ r.difHor) (hf : 0 ≤ r.f1) (hb : 0 < r.b) : 0 ≤ r.dirTot := by
  have h1 : 0 ≤ r.iDir := by rw [RadIn.iDir, rmax_eq_max]; exact le_max_left _ _
  have ha : 0 ≤ r.a := by rw [RadIn.a, rmax_eq_max]; exact le_max_left _ _
  exact add_nonneg h1 (div_nonneg (mul_nonneg (mul_nonneg hdif hf) ha) hb.le)

/-! ## the embedded tables (regenerated from the running code on every run) -/

def zones : List String := Gen.zoneNames.map (·.1)

/-- every zone name parses and prints back to itself -/
theorem zone_names_roundtrip : ∀ z ∈ Gen.zoneNames, z.2.1 = true ∧ z.2.2 = z.1 := by decide +kernel

theorem zones_count : zones.length = 32 := by decide +kernel

/-- monthly table: every zone × orientation has a row with 12 beam and 12 diffuse values, all ≥ 0 -/
theorem monthly_table_total_nonneg :
    ∀ z ∈ zones, ∀ o ∈ allOrients,
      (Gen.monthlyRad.filter (fun r => r.zone = z && r.orient = o)).length = 1 ∧
      ∀ r ∈ Gen.monthlyRad.filter (fun r => r.zone = z && r.orient = o),
        r.dir.length = 12 ∧ r.dif.length = 12 ∧ r.dir.all (fun v => decide (0 ≤ v)) = true ∧
        r.dif.all (fun v => decide (0 ≤ v)) = true := by
  intro z hz o _
  obtain ⟨r, hr, hok⟩ := monthlyRad_row hz o
  rw [hr]
  simpa only [List.length_singleton, List.mem_singleton, forall_eq, true_and, List.all_eq_true, decide_eq_true_eq]
    using Gen.MonthlyRow.ok_iff.1 hok

/-- as many rows as keys -/
theorem monthly_table_rows : Gen.monthlyRad.length = 288 := by
  rw [← List.length_map (f := fun r => (r.zone, r.orient)), monthlyRad_wf.1.length_eq]
  decide +kernel

/-- July design day: every zone has its hours, with non-negative radiation, dated in July, sun above
the horizon -/
theorem july_table_total_nonneg :
    ∀ z ∈ zones, ∃ rows, Gen.julyRad.lookup z = some rows ∧ rows ≠ [] ∧
      rows.all (fun r => r.month = 7 && decide (0 ≤ r.dir) && decide (0 ≤ r.dif) && decide (0 < r.altitude)) = true := by
  decide +kernel

/-- zone metadata: every zone has an entry under its own name, latitude within [27, 44]° -/
theorem zones_meta_total :
    ∀ z ∈ zones, ∃ m ∈ Gen.zonesMeta, m.zone = z ∧ m.zc = z ∧ 27 ≤ m.latitude ∧ m.latitude ≤ 44 := by
  decide +kernel

example : ndayFromMd 1 31 = some 31 ∧ ndayFromMd 12 31 = some 365 ∧ ndayFromMd 3 1 = some 60 := by decide +kernel
-- meets the hypotheses of `horizontal_conservation`
def exRad : RadIn :=
  { dirHor := 300, difHor := 100, sinAlt := 1 / 2, sinAltTrue := 1 / 2, cosInc := 1 / 2, cosZen := 1 / 2,
    cos85 := 87 / 1000, f1 := 1 / 4, f2 := 1 / 10, tilt := ⟨1, 0⟩, albedo := 1 / 5 }
example : exRad.dirTot + exRad.difTot = 400 := by decide +kernel

end Cte.C20
