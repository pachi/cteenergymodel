/-
`periodLengths` (year schedules: day counts between end dates, `t[1] - t[0]` on `u32`, a `checked_sub` since the repair): when the counts
exist, how many there are and what they add up to.  For C17 (the periods partition the year) and C19 (dates that go
backwards are rejected, not subtracted).
-/
import Cte.Model.Schedules

namespace Cte.Props.C19

theorem periodLengths_go_cons {prev e : Int} {t : List Int} {cs : List Nat} :
    periodLengths.go prev (e :: t) = some cs ↔ prev ≤ e ∧ ∃ r, periodLengths.go e t = some r ∧ (e - prev).toNat :: r = cs := by
  rw [periodLengths.go, Option.ite_none_left_eq_some, Option.map_eq_some_iff, Int.not_lt]

/-- end days that never go backwards, starting from `prev` -/
def ascFrom : Int → List Int → Prop
  | _, [] => True
  | p, e :: t => p ≤ e ∧ ascFrom e t

/-- the counts exist exactly when the end days never go backwards: no subtraction underflows, nothing else is rejected -/
theorem periodLengths_go_isSome_iff (prev : Int) (ends : List Int) :
    (periodLengths.go prev ends).isSome ↔ ascFrom prev ends := by
  induction ends generalizing prev with
  | nil => simp [periodLengths.go, ascFrom]
  | cons e t ih =>
    rw [ascFrom, ← ih, periodLengths.go, ← Int.not_lt]
    split <;> simp [*]

theorem periodLengths_isSome_iff (ends : List Int) :
    (periodLengths ends).isSome ↔ ascFrom 0 ends := periodLengths_go_isSome_iff 0 ends

/-- when they exist there is one count per period and they add up to the span covered -/
theorem periodLengths_go_sum (prev : Int) (ends : List Int) (cs : List Nat)
    (h : periodLengths.go prev ends = some cs) :
    cs.length = ends.length ∧ ((cs.foldr (· + ·) 0 : Nat) : Int) = (ends.getLast?.getD prev) - prev := by
  induction ends generalizing prev cs with
  | nil => cases h; simp
  | cons e t ih =>
    obtain ⟨hle, r, hr, rfl⟩ := periodLengths_go_cons.1 h
    obtain ⟨hl, hs⟩ := ih e r hr
    refine ⟨by simp [hl], ?_⟩
    rw [List.getLast?_cons, Option.getD_some, List.foldr_cons, Int.natCast_add, hs, Int.toNat_sub_of_le hle]
    omega

theorem periodLengths_go_pos (prev : Int) (ends : List Int) (ls : List Nat) (h : periodLengths.go prev ends = some ls)
    (hs : List.Pairwise (· < ·) (prev :: ends)) : ∀ l ∈ ls, 0 < l := by
  induction ends generalizing prev ls with
  | nil => cases h; simp
  | cons e t ih =>
    obtain ⟨-, r, hg, rfl⟩ := periodLengths_go_cons.1 h
    obtain ⟨hpe, hs'⟩ := List.pairwise_cons.1 hs
    exact List.forall_mem_cons.2 ⟨Int.lt_toNat.2 (Int.sub_pos.2 (hpe e List.mem_cons_self)), ih e r hg hs'⟩

end Cte.Props.C19
