/-
C17 — Schedules: a yearly schedule as the concatenation of its periods, weekday alignment, the calendar behind
`day_of_year`, end dates → period lengths, weekly runs. (Occupancy and load means: `C17Occ`.)
-/
import Cte.Model.Schedules
-- no `rsum` below; the `List.sum`s over ℕ in the statements take their `Zero ℕ` from Mathlib
import Cte.Lemmas.Sum
import Cte.Props.C19Periods
namespace Cte.C17

/-! ## expansion of a yearly schedule -/
theorem cycleSkipTake_length {l : List Id} (h : l ≠ []) (s n : Nat) : (cycleSkipTake l s n).length = n := by
  simp [cycleSkipTake, h]

theorem cycleSkipTake_nil (s n : Nat) : cycleSkipTake [] s n = [] := by simp [cycleSkipTake]

/-- day `k` of `cycle().skip(s).take(n)` is slot `s + k` of the cycle -/
theorem cycleSkipTake_get {l : List Id} (hl : l ≠ []) {s n k : Nat} (hk : k < n) :
    (cycleSkipTake l s n)[k]? = l[(s + k) % l.length]? := by
  simp only [cycleSkipTake, hl, dite_false, List.getElem?_map, List.getElem?_range hk, Option.map_some]
  rw [List.getElem?_eq_getElem]

/-- the days of the consecutive periods, each starting where the previous one ended -/
def segments (db : SchedulesDb) : Nat → List (Id × Nat) → List (List Id)
  | _, [] => []
  | c, e :: t => cycleSkipTake (((db.getWeek e.1).map weekToDays).getD []) (c % 7) e.2 :: segments db (c + e.2) t

theorem yearFold_eq (db : SchedulesDb) (vals : List (Id × Nat)) (acc : List Id) (c : Nat) :
    (vals.foldl (yearStep db) (acc, c)).1 = acc ++ (segments db c vals).flatten := by
  induction vals generalizing acc c with
  | nil => simp [segments]
  | cons e t ih =>
    simp only [List.foldl_cons, yearStep, segments, List.flatten_cons]
    rw [ih]; simp

theorem yearAsDays_eq (db : SchedulesDb) (id : Id) (y : Schedule) (h : db.getYear id = some y) :
    yearAsDays db id = (segments db 0 y.values).flatten := by
  simp [yearAsDays, h, yearFold_eq]

/-- every week referenced by the periods exists and expands to at least one day -/
def WeeksOk (db : SchedulesDb) (vals : List (Id × Nat)) : Prop :=
  ∀ e ∈ vals, ((db.getWeek e.1).map weekToDays).getD [] ≠ []

theorem segments_length (db : SchedulesDb) (c : Nat) {vals : List (Id × Nat)} (h : WeeksOk db vals) :
    (segments db c vals).flatten.length = (vals.map (·.2)).sum := by
  induction vals generalizing c with
  | nil => simp [segments]
  | cons e t ih =>
    simp only [segments, List.flatten_cons, List.length_append, List.map_cons, List.sum_cons]
    rw [cycleSkipTake_length (h e (by simp)), ih _ (fun x hx => h x (by simp [hx]))]

theorem year_length (db : SchedulesDb) (id : Id) (y : Schedule) (h : db.getYear id = some y)
    (hw : WeeksOk db y.values) : (yearAsDays db id).length = (y.values.map (·.2)).sum := by
  rw [yearAsDays_eq db id y h, segments_length db 0 hw]

def periodStart (vals : List (Id × Nat)) (p : Nat) : Nat := ((vals.take p).map (·.2)).sum

theorem segments_get (db : SchedulesDb) (c : Nat) {vals : List (Id × Nat)} {p : Nat} {e : Id × Nat}
    (hp : vals[p]? = some e) :
    (segments db c vals)[p]? =
      some (cycleSkipTake (((db.getWeek e.1).map weekToDays).getD []) ((c + periodStart vals p) % 7) e.2) := by
  induction vals generalizing c p with
  | nil => simp at hp
  | cons a t ih =>
    cases p with
    | zero => cases hp; rfl
    | succ q =>
      rw [segments, List.getElem?_cons_succ, ih (c + a.2) hp]
      simp [periodStart, Nat.add_assoc]

/-- day k of period p is slot (start_p + k) mod 7 of that period's weekly
schedule, where start_p is the number of days before the period. (The loop's `current_count` starts at 0; by
bemodel/src/types/schedules.rs:16, reference year 2001, slot 0 is a Monday.) -/
theorem weekday_alignment (db : SchedulesDb) (vals : List (Id × Nat)) (p k : Nat) (e : Id × Nat)
    (wk : Schedule) (hp : vals[p]? = some e) (hw : db.getWeek e.1 = some wk)
    (h7 : (weekToDays wk).length = 7) (hk : k < e.2) :
    ((segments db 0 vals)[p]?.bind (fun seg => seg[k]?)) = (weekToDays wk)[(periodStart vals p + k) % 7]? := by
  rw [segments_get db 0 hp, hw, Option.bind_some, Option.map_some, Option.getD_some, Nat.zero_add,
    cycleSkipTake_get (List.ne_nil_of_length_eq_add_one h7) hk, h7, Nat.mod_add_mod]

/-! ## the calendar -/

def daysIn : Nat → Nat
  | 1 => 31 | 2 => 28 | 3 => 31 | 4 => 30 | 5 => 31 | 6 => 30
  | 7 => 31 | 8 => 31 | 9 => 30 | 10 => 31 | 11 => 30 | 12 => 31 | _ => 0

/-- ordinal of a date in a non-leap year -/
def ordinal (day month : Nat) : Nat := ((List.range (month - 1)).map (fun k => daysIn (k + 1))).sum + day

def allDates : List (Nat × Nat) :=
  (List.range 12).flatMap (fun m => (List.range (daysIn (m + 1))).map (fun d => (d + 1, m + 1)))

theorem daysIn_le (m : Nat) : daysIn m ≤ 31 := by
  unfold daysIn; split <;> decide

theorem of_mem_allDates {dm : Nat × Nat} (h : dm ∈ allDates) : 1 ≤ dm.2 ∧ dm.2 ≤ 12 ∧ 1 ≤ dm.1 ∧ dm.1 ≤ daysIn dm.2 := by
  obtain ⟨m, hm, h⟩ := List.mem_flatMap.1 h
  obtain ⟨d, hd, rfl⟩ := List.mem_map.1 h
  exact ⟨Nat.le_add_left 1 m, List.mem_range.1 hm, Nat.le_add_left 1 d, List.mem_range.1 hd⟩

/-- formula and ordinal are both `day` plus a figure of the month, and the twelve figures agree -/
theorem dayOfYear_eq_ordinal {day month : Nat} (h1 : 1 ≤ month) (h12 : month ≤ 12) :
    dayOfYear day month = ordinal day month := by
  have months : ∀ m ∈ List.range' 1 12, dayOfYear 0 m = ordinal 0 m := by decide +kernel
  have := months month (List.mem_range'_1.2 ⟨h1, Nat.lt_succ_of_le h12⟩)
  unfold dayOfYear ordinal at this ⊢
  omega

theorem day_of_year_calendar : ∀ dm ∈ allDates, dayOfYear dm.1 dm.2 = ordinal dm.1 dm.2 := by
  intro dm h
  obtain ⟨h1, h12, -⟩ := of_mem_allDates h
  exact dayOfYear_eq_ordinal h1 h12

theorem allDates_length : allDates.length = 365 := by
  simp only [allDates, List.length_flatMap, List.length_map, List.length_range]; decide +kernel

/-! ## end dates → periods -/

/-- for end dates the conversion accepts (none goes backwards): one length per date, adding up to 365 -/
theorem periods_partition (ends : List Int) (ls : List Nat) (h : periodLengths ends = some ls)
    (hlast : ends.getLast? = some 365) : ls.sum = 365 ∧ ls.length = ends.length := by
  obtain ⟨h2, h1⟩ := Props.C19.periodLengths_go_sum 0 ends ls h
  rw [hlast, Option.getD_some, Int.sub_zero] at h1
  -- `periodLengths_go_sum` writes the sum as `foldr (· + ·) 0`
  exact ⟨List.sum_eq_foldr.trans (Int.ofNat_inj.1 h1), h2⟩

/-- `hs`: the end dates increase strictly, the first lying after day 0 -/
theorem periods_positive (ends : List Int) (ls : List Nat) (h : periodLengths ends = some ls)
    (hs : List.Pairwise (· < ·) ((0 : Int) :: ends)) : ∀ l ∈ ls, 0 < l :=
  Props.C19.periodLengths_go_pos 0 ends ls h hs

/-! ## weekly runs -/
theorem runs_go_expand (cur : String) (n : Nat) (rest : List String) :
    (weekRuns.go cur n rest).flatMap (fun e => List.replicate e.2 e.1) = List.replicate n cur ++ rest := by
  induction rest generalizing cur n with
  | nil => simp [weekRuns.go]
  | cons x xs ih =>
    rw [weekRuns.go]
    split
    · next h => simp [ih, h, List.replicate_succ']
    · simp [ih]

theorem week_runs_expand (names : List String) :
    (weekRuns names).flatMap (fun e => List.replicate e.2 e.1) = names := by
  cases names with
  | nil => rfl
  | cons d t => simp only [weekRuns]; rw [runs_go_expand]; simp

/-- the lengths of both sides of `week_runs_expand` -/
theorem week_runs_total (names : List String) : ((weekRuns names).map (·.2)).sum = names.length := by
  simpa [List.length_flatMap] using congrArg List.length (week_runs_expand names)

/-! ## a two-period year, three end dates, a Mon–Fri + Sat + Sun week -/
def exDb : SchedulesDb :=
  { year := [{ id := "y", values := [("w1", 3), ("w2", 5)] }],
    week := [{ id := "w1", values := [("a", 5), ("b", 2)] }, { id := "w2", values := [("c", 7)] }],
    day := [] }
example : yearAsDays exDb "y" = ["a", "a", "a", "c", "c", "c", "c", "c"] := by decide +kernel
example : WeeksOk exDb [("w1", 3), ("w2", 5)] := by unfold WeeksOk; decide +kernel
example : periodLengths [dayOfYear 31 5, dayOfYear 30 9, dayOfYear 31 12] = some [151, 122, 92] := by decide +kernel
example : weekRuns ["L", "L", "L", "L", "L", "S", "D"] = [("L", 5), ("S", 1), ("D", 1)] := by decide +kernel

end Cte.C17
