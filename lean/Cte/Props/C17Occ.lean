/-
C17 — occupancy figures: the yearly occupied time counts the hours in which at least one occupied space has non-zero occupancy, and
the mean internal load is the floor-area-weighted mean of the spaces' loads.
-/
import Cte.Props.C17
import Mathlib.Algebra.Order.Field.Rat
namespace Cte.C17Occ

/-- hour `h` of a day on which the occupied spaces follow the daily schedules `ids` is occupied when one of those schedules
    (that exists) has a non-zero value at `h` -/
def hourOccupied (m : Model) (ids : List Id) (h : Nat) : Bool :=
  ids.any (fun i => match m.dayProps.find? (·.id = i) with
    | some d => (d.notZero[h]?).getD false
    | none => false)

theorem orLists_map_range {n : Nat} (f : Nat → Bool) {b : List Bool} (hb : b.length = n) :
    orLists ((List.range n).map f) b = (List.range n).map (fun h => f h || (b[h]?).getD false) := by
  apply List.ext_getElem (by simp [orLists, hb])
  intro i _ hi
  simp [orLists, List.getElem?_eq_getElem (by simpa [hb] using hi : i < b.length)]

/-- the loop of `dayHoursInUse` as a list: hour by hour, the start value or some schedule's flag -/
theorem foldl_orLists {n : Nat} {dps : List DayP} (hd : ∀ d ∈ dps, d.notZero.length = n) (f : Nat → Bool) :
    dps.foldl (fun acc d => orLists acc d.notZero) ((List.range n).map f) =
      (List.range n).map (fun h => f h || dps.any (fun d => (d.notZero[h]?).getD false)) := by
  induction dps generalizing f with
  | nil => simp
  | cons d t ih =>
    rw [List.foldl_cons, orLists_map_range f (hd d (by simp)), ih (fun x hx => hd x (by simp [hx]))]
    simp only [List.any_cons, Bool.or_assoc]

theorem any_eraseDups {α} [BEq α] [LawfulBEq α] (l : List α) (p : α → Bool) : l.eraseDups.any p = l.any p := by
  rw [Bool.eq_iff_iff]; simp only [List.any_eq_true, List.mem_eraseDups]

/-- `ids` may hold duplicates and ids of schedules that do not exist -/
theorem dayHoursInUse_spec (m : Model) (ids : List Id) (h24 : ∀ d ∈ m.dayProps, d.notZero.length = 24) :
    dayHoursInUse m ids = ((List.range 24).filter (hourOccupied m ids)).length := by
  have hd : ∀ d ∈ (ids.eraseDups).filterMap (fun i => m.dayProps.find? (·.id = i)), d.notZero.length = 24 := by
    intro d hdm
    obtain ⟨i, _, hi⟩ := List.mem_filterMap.mp hdm
    exact h24 d (List.mem_of_find?_eq_some hi)
  have e : List.replicate 24 false = (List.range 24).map (fun _ => false) := by simp
  simp only [dayHoursInUse]
  rw [e, foldl_orLists hd, List.filter_map, List.length_map]
  congr 2
  funext h
  simp only [hourOccupied, Function.comp_def, id, Bool.false_or, List.any_filterMap, any_eraseDups]
  -- the two `match`es differ in name only
  refine congrArg ids.any (funext fun i => ?_)
  cases m.dayProps.find? (·.id = i) <;> rfl

/-- `occ_spaces_hours_in_use` (props.rs) -/
theorem hoursInUse_spec (m : Model) (h24 : ∀ d ∈ m.dayProps, d.notZero.length = 24) :
    hoursInUse m =
      ((List.range (((occupiedDaySchedules m).head?.map List.length).getD 0)).map (fun k =>
        ((List.range 24).filter (hourOccupied m ((occupiedDaySchedules m).filterMap (fun s => s[k]?)))).length)).foldl (· + ·) 0 := by
  unfold hoursInUse
  simp only [dayHoursInUse_spec m _ h24]

/-- the floor-area-weighted mean -/
theorem averageLoad_weighted (F : Fns) (m : Model)
    (hA : f32Eps < rsum ((occupiedSpaces m).map (fun s => s.area m.walls * s.multiplier))) :
    averageLoad F m * rsum ((occupiedSpaces m).map (fun s => s.area m.walls * s.multiplier)) =
      rsum ((occupiedSpaces m).map (fun s =>
        ((s.loads.bind (fun l => m.loadsProps.find? (·.id = l))).map (·.loadsAvg)).getD 0 * (s.area m.walls * s.multiplier))) := by
  unfold averageLoad
  simp only [gt_iff_lt, hA, if_true]
  exact div_mul_cancel₀ _ (lt_trans (by unfold f32Eps; norm_num) hA).ne'

theorem averageLoad_no_area (F : Fns) (m : Model)
    (hA : ¬ f32Eps < rsum ((occupiedSpaces m).map (fun s => s.area m.walls * s.multiplier))) : averageLoad F m = 0 := by
  unfold averageLoad
  simp only [gt_iff_lt, hA, if_false]

end Cte.C17Occ
