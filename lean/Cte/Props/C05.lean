/-
C05 — Export and indicators are deterministic, reproducible and history-independent
(state-machine part: tables are never written, locks are taken one at a time, poisoning needs a panic).
-/
import Cte.Model.Process
namespace Cte.C05
open Cte.Proc

theorem step_content (s : St) (i : Nat) : (stepAt s i).content = s.content := by
  unfold stepAt; split <;> rfl

theorem panic_content (s : St) (i : Nat) : (panicAt s i).content = s.content := by
  unfold panicAt; split <;> rfl

theorem step_poisoned (s : St) (i : Nat) : (stepAt s i).poisoned = s.poisoned := by
  unfold stepAt; split <;> rfl

theorem panic_poisoned (s : St) (i : Nat) (t : Tbl) :
    (panicAt s i).poisoned t = (s.poisoned t || s.threads[i]?.any (·.held = some t)) := by
  unfold panicAt; cases s.threads[i]? <;> simp

def noPanic : List Ev → Bool
  | [] => true
  | .step _ :: r => noPanic r
  | .panic _ :: _ => false

/-- what every step keeps, and every panic too unless the history has none, holds after the run -/
theorem run_induction {P : St → Prop} (evs : List Ev) (hstep : ∀ s i, P s → P (stepAt s i))
    (hpanic : noPanic evs = true ∨ ∀ s i, P s → P (panicAt s i)) {s : St} (h : P s) : P (s.run evs) := by
  induction evs generalizing s with
  | nil => exact h
  | cons e r ih =>
    cases e with
    | step i => exact ih hpanic (hstep s i h)
    | panic i =>
      have hp := hpanic.resolve_left (by simp [noPanic])
      exact ih (.inr hp) (hp s i h)

/-- after any history of steps and panics of any threads, in any interleaving -/
theorem content_const (s : St) (evs : List Ev) : (s.run evs).content = s.content :=
  run_induction (P := (·.content = s.content)) evs (fun s i h => (step_content s i).trans h)
    (.inr fun s i h => (panic_content s i).trans h) rfl

/-- so a computation, a function of its argument and the tables, returns what it would in a fresh process -/
theorem history_independent {α β : Type} (f : α → (Tbl → Nat) → β) (s : St) (evs : List Ev) (a : α) :
    f a (s.run evs).content = f a s.content := by rw [content_const]

theorem no_poison_without_panic (s : St) (evs : List Ev) (h : noPanic evs = true) :
    (s.run evs).poisoned = s.poisoned :=
  run_induction (P := (·.poisoned = s.poisoned)) evs (fun s i h => (step_poisoned s i).trans h) (.inl h) rfl

theorem poison_sticky (s : St) (evs : List Ev) (t : Tbl) (h : s.poisoned t = true) :
    (s.run evs).poisoned t = true :=
  run_induction (P := (·.poisoned t = true)) evs (fun s i h => by rwa [step_poisoned])
    (.inr fun s i h => by simp [panic_poisoned, h]) h

/-- every later computation that needs the table fails (`lock().unwrap()`) -/
theorem poison_propagates (s : St) (i : Nat) (th : Thread) (t : Tbl) (evs : List Ev)
    (hi : s.threads[i]? = some th) (hh : th.held = some t) :
    canLock ((panicAt s i).run evs) t = false := by
  simp [canLock, poison_sticky _ evs t (by simp [panic_poisoned, hi, hh] : (panicAt s i).poisoned t = true)]

/-- a panic of a thread that holds no lock leaves no trace in the shared state -/
theorem failure_isolated (s : St) (i : Nat) (th : Thread) (hi : s.threads[i]? = some th) (hh : th.held = none) :
    (panicAt s i).poisoned = s.poisoned ∧ (panicAt s i).content = s.content :=
  ⟨funext fun t => by simp [panic_poisoned, hi, hh], panic_content s i⟩

theorem indicators_one_lock_at_a_time : wfFrom none indicatorsProg = true := by decide
theorem convert_takes_no_lock : wfFrom none convertProg = true ∧ convertProg.all (fun a => a == .work) = true := by decide

/-- what `no_deadlock` asks of every thread is kept by the thread's own step (not lifted through `stepAt`, `St.run`) -/
theorem step_ok (th : Thread) (h : th.ok = true) : th.step.ok = true :=
  match th, h with
  | ⟨_, []⟩, h => h
  | ⟨none, .lock _ :: _⟩, h | ⟨none, .work :: _⟩, h | ⟨some _, .work :: _⟩, h => h
  | ⟨some _, .unlock _ :: _⟩, h => (Bool.and_eq_true_iff.1 h).2
  | ⟨none, .unlock _ :: _⟩, h | ⟨some _, .lock _ :: _⟩, h => nomatch h

/-- its next step is not a lock request -/
theorem holder_can_step (th : Thread) (t : Tbl) (h : th.ok = true) (hh : th.held = some t) (others : List Thread) :
    enabled others th = true := by
  obtain ⟨_, rest⟩ := th
  subst hh
  match rest, h with
  | .unlock _ :: _, _ | .work :: _, _ => rfl

/-- "the others" are `ths.filter (· ≠ th)` here and `eraseIdx` in `replayOne`; that the filter also drops threads equal to
`th` is harmless: one that asks for a lock holds none -/
theorem no_deadlock (ths : List Thread) (hok : ∀ th ∈ ths, th.ok = true)
    (hunf : ∃ th ∈ ths, th.rest ≠ []) :
    ∃ th ∈ ths, enabled (ths.filter (· ≠ th)) th = true := by
  obtain ⟨th, hth, hne⟩ := hunf
  cases hr : th.rest with
  | nil => exact absurd hr hne
  | cons a r =>
    cases a with
    | unlock _ | work => exact ⟨th, hth, by simp [enabled, hr]⟩
    | lock t =>
      cases hheld : holds (ths.filter (· ≠ th)) t with
      | false => exact ⟨th, hth, by simp only [enabled, hr, hheld, Bool.not_false]⟩
      | true =>
        -- somebody else holds t: that thread can step
        obtain ⟨u, hu, huh⟩ := List.any_eq_true.1 hheld
        have hu' : u ∈ ths := (List.mem_filter.1 hu).1
        exact ⟨u, hu', holder_can_step u t (hok u hu') (by simpa using huh) _⟩

/-- reached by steps alone, in some interleaving (`replay_is_run` states it written out) -/
def Reaches (s s1 : St) : Prop := ∃ evs, noPanic evs = true ∧ s.run evs = s1

theorem Reaches.step {s s1 : St} (i : Nat) : Reaches (stepAt s i) s1 → Reaches s s1
  | ⟨evs, h1, h2⟩ => ⟨.step i :: evs, h1, h2⟩

theorem runWork_reaches (fuel : Nat) (s : St) (i : Nat) {s1 : St} (h : Reaches (runWork fuel s i) s1) :
    Reaches s s1 := by
  induction fuel generalizing s with
  | zero => exact h
  | succ n ih =>
    unfold runWork at h
    split at h
    · split at h
      · exact (ih _ h).step i
      · exact h
    · exact h

theorem replayOne_reaches (fuel : Nat) (s s0 : St) (o : Obs) (h0 : replayOne fuel s o = some s0) {s1 : St}
    (h : Reaches s0 s1) : Reaches s s1 := by
  simp only [replayOne] at h0
  repeat' (split at h0 <;> try cases h0)
  exact runWork_reaches fuel s o.thread (h.step o.thread)

/-- an accepted lock trace is a run without panics, so what holds of every run holds of the observed execution.
`St.run` applies any event, enabled or not: that each acquisition was granted (`enabled`) is not stated here, the
executable `replayOne` tests it. -/
theorem replay_is_run (fuel : Nat) (s s1 : St) (tr : List Obs) (h : replay fuel s tr = some s1) :
    ∃ evs, noPanic evs = true ∧ s.run evs = s1 := by
  induction tr generalizing s with
  | nil => cases h; exact ⟨[], rfl, rfl⟩
  | cons o r ih =>
    obtain ⟨s0, h0, h⟩ := Option.bind_eq_some_iff.1 h
    exact replayOne_reaches fuel s s0 o h0 (ih s0 h)

theorem replay_preserves (fuel : Nat) (s s1 : St) (tr : List Obs) (h : replay fuel s tr = some s1) :
    s1.content = s.content ∧ s1.poisoned = s.poisoned := by
  obtain ⟨evs, h1, h2⟩ := replay_is_run fuel s s1 tr h
  rw [← h2]; exact ⟨content_const s evs, no_poison_without_panic s evs h1⟩

/-- one computation on one thread is accepted and finishes; acquiring the July table while another thread holds it
is not -/
example : ((replay 16 (indicatorThreads 1 1)
    [⟨0, .lock .monthly⟩, ⟨0, .unlock .monthly⟩, ⟨0, .lock .meta_⟩, ⟨0, .unlock .meta_⟩, ⟨0, .lock .july⟩, ⟨0, .unlock .july⟩]).map St.finished)
    = some true := by decide +kernel
example : (replay 16 (indicatorThreads 2 1)
    [⟨0, .lock .monthly⟩, ⟨0, .unlock .monthly⟩, ⟨0, .lock .meta_⟩, ⟨0, .unlock .meta_⟩, ⟨0, .lock .july⟩,
     ⟨1, .lock .monthly⟩, ⟨1, .unlock .monthly⟩, ⟨1, .lock .meta_⟩, ⟨1, .unlock .meta_⟩, ⟨1, .lock .july⟩]).isNone = true := by decide +kernel

/-- ids are computed element by element: `uuid_from_obj` of the element's own Debug text -/
theorem id_local {E Id : Type} [DecidableEq E] (idOf : E → Id) (defs defs' : List E) (e : E)
    (h : e ∈ defs) (h' : e ∈ defs') :
    ((defs.map (fun x => (x, idOf x))).lookup e) = ((defs'.map (fun x => (x, idOf x))).lookup e) := by
  have key : ∀ l : List E, e ∈ l → (l.map (fun x => (x, idOf x))).lookup e = some (idOf e) := by
    intro l hl
    induction l with
    | nil => cases hl
    | cons a t ih =>
      by_cases ha : e = a
      · simp [ha]
      · simp [List.lookup_cons, beq_false_of_ne ha, ih ((List.mem_cons.1 hl).resolve_left ha)]
  rw [key defs h, key defs' h']

/-! ## non-vacuity: two threads computing indicators concurrently -/
def exThreads : List Thread := [{ held := none, rest := indicatorsProg }, { held := some .july, rest := [.work, .unlock .july] }]
example : ∀ th ∈ exThreads, th.ok = true := by decide
example : enabled [exThreads[1]] exThreads[0] = true := by decide

end Cte.C05
