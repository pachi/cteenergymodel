/-
C12 — Obstruction factors are bounded, monotone and ≈ 1 for unobstructed windows.
-/
import Cte.Model.Fshobst
import Cte.Lemmas.Sum
import Cte.Lemmas.Round
import Mathlib.Tactic.Positivity
namespace Cte.C12

/-- also for the empty list: 0/0 = 0 -/
theorem share_unit {α} (p : α → Bool) (l : List α) :
    0 ≤ (((l.filter p).length : Nat) : Rat) / (l.length : Nat) ∧
    (((l.filter p).length : Nat) : Rat) / (l.length : Nat) ≤ 1 :=
  ⟨by positivity, div_le_one_of_le₀ (Nat.cast_le.2 (List.length_filter_le _ _)) (by positivity)⟩

theorem share_mono {α} {p q : α → Bool} (h : ∀ x, p x = true → q x = true) (l : List α) :
    (((l.filter p).length : Nat) : Rat) / (l.length : Nat) ≤ (((l.filter q).length : Nat) : Rat) / (l.length : Nat) := by
  refine div_le_div_of_nonneg_right ?_ (by positivity)
  rw [← List.countP_eq_length_filter, ← List.countP_eq_length_filter]
  exact Nat.cast_le.2 (List.countP_mono_left fun x _ => h x)

theorem ite_between {α} [LE α] {c : Prop} [Decidable c] {lo hi a b : α} (ha : lo ≤ a ∧ a ≤ hi) (hb : lo ≤ b ∧ b ≤ hi) :
    lo ≤ ite c a b ∧ ite c a b ≤ hi := by
  split <;> assumption

theorem ite_le_ite {α} [LE α] {c : Prop} [Decidable c] {a a' b b' : α} (ha : a ≤ a') (hb : b ≤ b') :
    ite c a b ≤ ite c a' b' := by
  split <;> assumption

/-- `hp`: the wall has a geometric position (`wallHasPosition` in the model); `ndot`: wall normal · direction to the sun -/
theorem f_in_unit (hp : Bool) (ndot : Rat) (origins : List V3) (dir : V3) (occ : List Occ) :
    0 ≤ sunlitFraction hp ndot origins dir occ ∧ sunlitFraction hp ndot origins dir occ ≤ 1 := by
  have := share_unit (blocked occ dir) origins
  unfold sunlitFraction
  exact ite_between ⟨zero_le_one, le_rfl⟩ <| ite_between ⟨le_rfl, zero_le_one⟩ <| ite_between ⟨zero_le_one, le_rfl⟩
    ⟨sub_nonneg.2 this.2, sub_le_self _ this.1⟩

theorem blocked_mono {occ occ' : List Occ} (h : ∀ o ∈ occ, o ∈ occ') (dir o : V3) :
    blocked occ dir o = true → blocked occ' dir o = true := by
  unfold blocked
  simp only [List.any_eq_true]
  rintro ⟨x, hx, hb⟩
  exact ⟨x, h x hx, hb⟩

/-- adding any wall or shade never increases the sunlit fraction -/
theorem f_antitone_occluders (hp : Bool) (ndot : Rat) (origins : List V3) (dir : V3) (occ occ' : List Occ)
    (h : ∀ o ∈ occ, o ∈ occ') :
    sunlitFraction hp ndot origins dir occ' ≤ sunlitFraction hp ndot origins dir occ := by
  unfold sunlitFraction
  exact ite_le_ite le_rfl <| ite_le_ite le_rfl <| ite_le_ite le_rfl <|
    sub_le_sub_left (share_mono (blocked_mono h dir) origins) _

/-- without obstacles: 1, or 0 where a positioned wall has the sun behind it -/
theorem unobstructed (hp : Bool) (ndot : Rat) (origins : List V3) (dir : V3) :
    sunlitFraction hp ndot origins dir [] = (if hp && decide (ndot < 1 / 100) then 0 else 1) := by
  have unblocked : origins.filter (blocked [] dir) = [] := List.filter_eq_nil_iff.2 fun _ _ => by simp [blocked]
  cases hp <;> simp [sunlitFraction, unblocked]

/-- the wall has no geometric position: the code answers 1 first -/
theorem no_position_is_one (ndot : Rat) (origins : List V3) (dir : V3) (occ : List Occ) :
    sunlitFraction false ndot origins dir occ = 1 := by
  simp [sunlitFraction]

/-- a window without sample points (no position of its own) is fully sunlit when the sun is in front -/
theorem no_origins_is_one (ndot : Rat) (dir : V3) (occ : List Occ) (h : ¬ ndot < 1 / 100) :
    sunlitFraction true ndot [] dir occ = 1 := by
  unfold sunlitFraction
  rw [if_neg (by simp), if_neg h, if_pos (by rfl)]

/-- `hb`: no rounding bias (`Model/Fns.lean`: ±1 only in the correspondence check) -/
theorem fshobst_is_mean (F : Fns) (hb : F.bias = 0) (hs : List HourIn) :
    fshobst F hs = round2 (rsum (hs.map (fun h => (h.f * h.dir + h.dif) / (h.dir + h.dif))) / (hs.length : Nat)) := by
  simp only [fshobst, fshobstRaw, Fns.r2_unbiased F hb]
  rfl

theorem term_in_unit (h : HourIn) (hf0 : 0 ≤ h.f) (hf1 : h.f ≤ 1) (hd : 0 ≤ h.dir) (hi : 0 ≤ h.dif)
    (hpos : 0 < h.dir + h.dif) : 0 ≤ fshTerm h ∧ fshTerm h ≤ 1 :=
  ⟨div_nonneg (add_nonneg (mul_nonneg hf0 hd) hi) hpos.le,
    (div_le_one hpos).2 (add_le_add_left (mul_le_of_le_one_left hd hf1) _)⟩

theorem le_mean {α} {l : List α} {f : α → Rat} {c : Rat} (hne : l ≠ []) (h : ∀ x ∈ l, c ≤ f x) :
    c ≤ rsum (l.map f) / (l.length : Nat) := by
  have hpos : (0 : Rat) < (l.length : Nat) := Nat.cast_pos.2 (List.length_pos_iff.2 hne)
  rw [le_div_iff₀ hpos, rsum_eq_sum, mul_comm, ← nsmul_eq_mul, ← List.length_map (f := f)]
  exact List.card_nsmul_le_sum _ _ (List.forall_mem_map.2 h)

theorem mean_le {α} {l : List α} {f : α → Rat} {c : Rat} (hne : l ≠ []) (h : ∀ x ∈ l, f x ≤ c) :
    rsum (l.map f) / (l.length : Nat) ≤ c := by
  have hpos : (0 : Rat) < (l.length : Nat) := Nat.cast_pos.2 (List.length_pos_iff.2 hne)
  rw [div_le_iff₀ hpos, rsum_eq_sum, mul_comm, ← nsmul_eq_mul, ← List.length_map (f := f)]
  exact List.sum_le_card_nsmul _ _ (List.forall_mem_map.2 h)

/-- before and after rounding -/
theorem fshobst_in_unit (F : Fns) (hb : F.bias = 0) (hs : List HourIn) (hne : hs ≠ [])
    (h : ∀ x ∈ hs, 0 ≤ x.f ∧ x.f ≤ 1 ∧ 0 ≤ x.dir ∧ 0 ≤ x.dif ∧ 0 < x.dir + x.dif) :
    (0 ≤ fshobstRaw hs ∧ fshobstRaw hs ≤ 1) ∧ (0 ≤ fshobst F hs ∧ fshobst F hs ≤ 1) := by
  have hterms : ∀ x ∈ hs, 0 ≤ fshTerm x ∧ fshTerm x ≤ 1 := fun x hx => by
    obtain ⟨a, b, c, d, e⟩ := h x hx
    exact term_in_unit x a b c d e
  have raw : 0 ≤ fshobstRaw hs ∧ fshobstRaw hs ≤ 1 :=
    ⟨le_mean hne fun x hx => (hterms x hx).1, mean_le hne fun x hx => (hterms x hx).2⟩
  refine ⟨raw, ?_⟩
  unfold fshobst
  rw [Fns.r2_unbiased F hb]
  exact ⟨round2_nonneg raw.1, (round2_mono raw.2).trans_eq (by decide +kernel)⟩

theorem term_mono {a b : HourIn} (hd : a.dir = b.dir) (hi : a.dif = b.dif) (hf : a.f ≤ b.f) (hdir : 0 ≤ a.dir)
    (hsum : 0 ≤ a.dir + a.dif) : fshTerm a ≤ fshTerm b := by
  unfold fshTerm
  rw [← hd, ← hi]
  exact div_le_div_of_nonneg_right (add_le_add_left (mul_le_mul_of_nonneg_right hf hdir) _) hsum

/-- monotone in the sunlit fractions: `f'` gives the new fraction of each hour (a function of the hour, not a
second list, so that the irradiances stay the same); `f_antitone_occluders` gives `hle` when obstacles are added -/
theorem fshobst_monotone (F : Fns) (hb : F.bias = 0) (hs : List HourIn) (f' : HourIn → Rat)
    (hle : ∀ x ∈ hs, f' x ≤ x.f) (h : ∀ x ∈ hs, 0 ≤ x.dir ∧ 0 < x.dir + x.dif) :
    fshobst F (hs.map (fun x => { x with f := f' x })) ≤ fshobst F hs := by
  unfold fshobst
  rw [Fns.r2_unbiased F hb, Fns.r2_unbiased F hb]
  apply round2_mono
  unfold fshobstRaw
  rw [List.length_map, List.map_map, rsum_eq_sum, rsum_eq_sum]
  refine div_le_div_of_nonneg_right (List.sum_le_sum fun x hx => ?_) (by positivity)
  exact term_mono rfl rfl (hle x hx) (h x hx).1 (h x hx).2.le

/-- a window hidden at every hour has the diffuse share only -/
theorem fully_hidden (hs : List HourIn) (h : ∀ x ∈ hs, x.f = 0) :
    fshobstRaw hs = rsum (hs.map (fun x => x.dif / (x.dir + x.dif))) / (hs.length : Nat) := by
  unfold fshobstRaw
  congr 2
  exact List.map_congr_left fun x hx => by simp [fshTerm, h x hx]

/-- a window fully sunlit at every hour with some radiation has factor 1 -/
theorem fully_sunlit (hs : List HourIn) (hne : hs ≠ []) (h : ∀ x ∈ hs, x.f = 1 ∧ x.dir + x.dif ≠ 0) :
    fshobstRaw hs = 1 := by
  have one : ∀ x ∈ hs, fshTerm x = 1 := fun x hx => by simp [fshTerm, (h x hx).1, div_self (h x hx).2]
  exact le_antisymm (mean_le hne fun x hx => (one x hx).le) (le_mean hne fun x hx => (one x hx).ge)

/-- the hours with the sun behind the window (f = 0) carry a beam share of at most ε; `∨ eps < 0` stands in for a
hypothesis `0 ≤ eps` -/
theorem unobstructed_bound (hs : List HourIn) (hne : hs ≠ []) (eps : Rat)
    (h : ∀ x ∈ hs, 0 ≤ x.dir ∧ 0 ≤ x.dif ∧ 0 < x.dir + x.dif ∧ (x.f = 1 ∨ (x.f = 0 ∧ x.dir ≤ eps * (x.dir + x.dif)))) :
    1 - eps ≤ fshobstRaw hs ∨ eps < 0 := by
  refine (lt_or_ge eps 0).symm.imp_left fun he => le_mean hne fun x hx => ?_
  obtain ⟨-, -, hp, hc⟩ := h x hx
  rw [fshTerm, le_div_iff₀ hp]
  rcases hc with h1 | ⟨h0, hb⟩
  · rw [h1, one_mul]; exact mul_le_of_le_one_left hp.le (sub_le_self 1 he)
  · rw [h0]; linarith

/-! ## hours that meet the hypotheses of `fshobst_in_unit` -/
def exHours : List HourIn := [{ f := 1, dir := 300, dif := 100 }, { f := 0, dir := 0, dif := 80 }, { f := 1 / 2, dir := 200, dif := 200 }]
example : fshobstRaw exHours = (1 + 1 + 3 / 4) / 3 := by decide +kernel
example : ∀ x ∈ exHours, 0 ≤ x.f ∧ x.f ≤ 1 ∧ 0 ≤ x.dir ∧ 0 ≤ x.dif ∧ 0 < x.dir + x.dif := by decide +kernel

end Cte.C12
