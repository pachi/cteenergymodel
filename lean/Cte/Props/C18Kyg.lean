/-
  C18 — KyGananciasSolares.txt, whole file: a file printed from a list of rows (`KRow`), with padded fields (HULC writes `S `
  for an orientation) and a CRLF or LF line end after each row, is read back by `Aux.kygParse` row by row, in order.
  `KRow` has comments, blanks and the line kinds `Aux.kygLine` takes data from; not the two it skips besides: a `Muro`, `Ventana`
  or `PPTT` line whose first field is not exactly that word, and a line that starts like no kind.
-/
import Cte.Props.C18Aux
import Cte.Lemmas.BdlLines

namespace Cte.Props.C18Kyg
open Cte.Bdl Cte.Aux Cte.Props.C18Aux

/-- a field as written: blanks, the value, blanks -/
structure Fld where
  padL : Str := []
  core : Str
  padR : Str := []

def Fld.text (f : Fld) : Str := f.padL ++ f.core ++ f.padR

structure Fld.WF (f : Fld) : Prop where
  padL : AllWs f.padL
  padR : AllWs f.padR
  core : Clean f.core ∨ f.core = []
  nosemi : ';' ∉ f.text

theorem Fld.trim_text (f : Fld) (h : f.WF) : trim f.text = f.core := by
  rcases h.core with hc | hc
  · exact trim_pad h.padL h.padR hc
  · unfold Fld.text
    rw [hc, List.append_nil]
    exact trim_allWs (h.padL.append h.padR)

/-- the fields of a `;`-separated line, each trimmed, are the written values -/
theorem fields_of_line (fs : List Fld) (hne : fs ≠ []) (hw : ∀ f ∈ fs, f.WF) :
    (splitChar ';' (joinWith [';'] (fs.map Fld.text))).map trim = fs.map (·.core) := by
  rw [splitChar_fields ';' (fs.map Fld.text) (by simpa using hne)
    (List.forall_mem_map.mpr fun f hf => (hw f hf).nosemi), List.map_map]
  exact List.map_congr_left fun f hf => Fld.trim_text f (hw f hf)

def word (s : String) : Fld := { core := s.toList }

/-- each row also carries the numbers its fields read as, so that `KRow.apply` needs no parser -/
inductive KRow where
  /-- `#…` -/
  | comment (text : Str)
  | blank (ws : Str)
  /-- `Muro;name;area;U;b[;type;orientation;construction…]` -/
  | muro (name a u b : Fld) (more : List Fld) (an un bn : Num)
  /-- `Ventana;name;area;U;orientation;frame %[;…]` with at most 10 fields -/
  | ventana (name a u o ff : Fld) (more : List Fld) (an un fn : Num)
  /-- `Ventana;name;area;U;orientation;frame %;g;unused;unused;permeability;construction[;…]` -/
  | ventanaLong (name a u o ff g1 g2 g3 g4 cons : Fld) (more : List Fld) (an un fn n1 n2 n3 n4 : Num)
  /-- `PPTT;length;psi;name[;system…]` -/
  | pptt (l psi name : Fld) (more : List Fld) (ln pn : Num)
  /-- `Coeficiente K…;value[;…]` -/
  | kline (tail : Str) (pad : Str) (val : Fld) (more : List Fld) (kn : Num)
  /-- `d…;value[;…]` with `d` one of the digits 0 … 8: a monthly factor -/
  | hfactor (d : Char) (tail : Str) (pad : Str) (val : Fld) (more : List Fld) (vn : Num)
  /-- `"window";azimuth;x;Htot;x;x;H3;x[;…]`: a solar-gains line -/
  | gains (name : Str) (pad : Str) (f1 f2 f3 f4 f5 f6 f7 : Fld) (more : List Fld) (n1 n2 n3 n4 n5 n6 n7 : Num)

def KRow.fields : KRow → List Fld
  | .comment _ | .blank _ => []
  | .muro name a u b more _ _ _ => word "Muro" :: name :: a :: u :: b :: more
  | .ventana name a u o ff more _ _ _ => word "Ventana" :: name :: a :: u :: o :: ff :: more
  | .ventanaLong name a u o ff g1 g2 g3 g4 cons more _ _ _ _ _ _ _ => word "Ventana" :: name :: a :: u :: o :: ff :: g1 :: g2 :: g3 :: g4 :: cons :: more
  | .pptt l psi name more _ _ => word "PPTT" :: l :: psi :: name :: more
  | .kline tail pad val more _ => { core := "Coeficiente K".toList ++ tail, padR := pad } :: val :: more
  | .hfactor d tail pad val more _ => { core := d :: tail, padR := pad } :: val :: more
  | .gains name pad f1 f2 f3 f4 f5 f6 f7 more _ _ _ _ _ _ _ => { core := '"' :: (name ++ ['"']), padR := pad } :: f1 :: f2 :: f3 :: f4 :: f5 :: f6 :: f7 :: more

def KRow.line : KRow → Str
  | .comment text => '#' :: text
  | .blank ws => ws
  | r => joinWith [';'] (r.fields.map Fld.text)

/-- the last field ends the line without blanks, so that trimming the line changes nothing -/
def lastTight (fs : List Fld) : Prop := ∃ f, fs.getLast? = some f ∧ f.padR = [] ∧ Clean f.core

def fieldsOk (fs : List Fld) : Prop := (∀ f ∈ fs, f.WF ∧ '\n' ∉ f.text) ∧ lastTight fs

def KRow.WF : KRow → Prop
  | .comment text => '\n' ∉ text ∧ (text = [] ∨ ∃ c, text.getLast? = some c ∧ isWs c = false)
  | .blank ws => AllWs ws ∧ '\n' ∉ ws
  | r@(.muro _ a u b _ an un bn) =>
    fieldsOk r.fields ∧ commaNum a.core = some an ∧ commaNum u.core = some un ∧ commaNum b.core = some bn
  | r@(.ventana _ a u _ ff more an un fn) =>
    fieldsOk r.fields ∧ more.length ≤ 4 ∧
    commaNum a.core = some an ∧ commaNum u.core = some un ∧ commaNum ff.core = some fn
  | r@(.ventanaLong _ a u _ ff g1 g2 g3 g4 _ _ an un fn n1 n2 n3 n4) =>
    fieldsOk r.fields ∧ commaNum a.core = some an ∧ commaNum u.core = some un ∧ commaNum ff.core = some fn ∧
    commaNum g1.core = some n1 ∧ commaNum g2.core = some n2 ∧ commaNum g3.core = some n3 ∧ commaNum g4.core = some n4
  | r@(.pptt l psi _ _ ln pn) =>
    fieldsOk r.fields ∧ commaNum l.core = some ln ∧ commaNum psi.core = some pn
  | r@(.kline _ _ val _ kn) => fieldsOk r.fields ∧ commaNum val.core = some kn
  | r@(.hfactor d _ _ val _ vn) => fieldsOk r.fields ∧ d ∈ ['0', '1', '2', '3', '4', '5', '6', '7', '8'] ∧ commaNum val.core = some vn
  | r@(.gains name _ f1 f2 f3 f4 f5 f6 f7 _ n1 n2 n3 n4 n5 n6 n7) =>
    fieldsOk r.fields ∧ (∀ c, name.head? = some c → c ≠ '"') ∧ (∀ c, name.getLast? = some c → c ≠ '"') ∧
    parseF32 f1.core = some n1 ∧ parseF32 f2.core = some n2 ∧ parseF32 f3.core = some n3 ∧ parseF32 f4.core = some n4 ∧
    parseF32 f5.core = some n5 ∧ parseF32 f6.core = some n6 ∧ parseF32 f7.core = some n7

/-- type, orientation, construction: kept when a `Muro` row has at least 8 fields -/
def muroExtra : List Fld → Option (Str × Str × Str)
  | m0 :: m1 :: m2 :: _ => some (m0.core, m1.core, m2.core)
  | _ => none

def KRow.apply (st : Kyg) : KRow → Kyg
  | .comment _ | .blank _ => st
  | .muro name _ _ _ more an un bn =>
    { st with walls := st.walls ++ [{ name := name.core, a := an, u := un, btrx := bn, extra := muroExtra more }] }
  | .ventana name _ _ o _ _ an un fn =>
    { st with windows := st.windows ++ [{ name := name.core, orientation := replaceOW o.core, a := an, u := un, ff := fn, extra := none }] }
  | .ventanaLong name _ _ o _ _ _ _ _ cons _ an un fn n1 n2 n3 n4 =>
    { st with windows := st.windows ++ [{ name := name.core, orientation := replaceOW o.core, a := an, u := un, ff := fn, extra := some (n1, n2, n3, n4, cons.core) }] }
  | .pptt _ _ name more ln pn =>
    { st with tbs := st.tbs ++ [{ name := name.core, l := ln, psi := pn, sisdim := ((more.head?).map (·.core)).getD [] }] }
  | .kline _ _ _ _ kn => { st with k := some kn }
  | .hfactor _ _ _ _ _ vn => { st with hfactors := st.hfactors ++ [vn] }
  | .gains name _ _ _ _ _ _ _ _ _ n1 _ n3 _ _ n6 _ =>
    { st with gains := st.gains ++ [{ name := name, azimuth := n1, htot := n3, h3 := n6 }] }

theorem startsWith_append (p s : Str) : startsWith p (p ++ s) = true :=
  List.isPrefixOf_iff_prefix.mpr (List.prefix_append p s)

theorem startsWith_of_append {p q s : Str} (h : startsWith (p ++ q) s = true) : startsWith p s = true :=
  List.isPrefixOf_iff_prefix.mpr ((List.prefix_append p q).trans (List.isPrefixOf_iff_prefix.mp h))

/-- a line that starts with the first field's value and has a tight end is its own trim, and splits into the written values -/
theorem row_line {f0 : Fld} {t : List Fld} (h : fieldsOk (f0 :: t)) (h0 : f0.padL = []) (hc0 : f0.core ≠ []) :
    startsWith f0.core (trim (joinWith [';'] ((f0 :: t).map Fld.text))) = true ∧
      (splitChar ';' (trim (joinWith [';'] ((f0 :: t).map Fld.text)))).map trim = (f0 :: t).map (·.core) := by
  obtain ⟨g, hg, hpad, -, c, hc, hws⟩ := h.2
  obtain ⟨rest, hline⟩ : f0.core <+: joinWith [';'] ((f0 :: t).map Fld.text) := by
    cases t <;> simp [joinWith, Fld.text, h0]
  have hlast : (joinWith [';'] ((f0 :: t).map Fld.text)).getLast? = some c :=
    joinWith_getLast (f := g.text) (by rw [List.getLast?_map, hg]; rfl) (by simp [Fld.text, hpad, List.getLast?_append, hc])
  obtain ⟨c0, hh0, hws0⟩ := (((h.1 f0 (by simp)).1.core).resolve_right hc0).1
  rw [trim_clean ⟨⟨c0, by rw [← hline, List.head?_append, hh0]; rfl, hws0⟩, c, hlast, hws⟩]
  exact ⟨hline ▸ startsWith_append _ _, fields_of_line _ (by simp) fun g m => (h.1 g m).1⟩

/-- a row's line, trimmed as `kyg::parse` trims every line, is read as written -/
theorem kygLine_row (st : Kyg) (r : KRow) (h : r.WF) : kygLine st (trim r.line) = .ok (r.apply st) := by
  cases r with
  | comment text =>
    have hc : Clean ('#' :: text) := by
      refine ⟨⟨'#', rfl, by decide⟩, ?_⟩
      rcases h.2 with rfl | ⟨c, hc, hw⟩
      · exact ⟨'#', rfl, by decide⟩
      · exact ⟨c, by rw [List.getLast?_cons, hc]; rfl, hw⟩
    simp only [KRow.line, trim_clean hc]
    exact kygLine_skip st rfl
  | blank ws =>
    simp only [KRow.line, trim_allWs h.1]
    exact kygLine_skip st rfl
  | muro name a u b more an un bn =>
    obtain ⟨hf, ha, hu, hb⟩ := h
    -- the line of a row with fields unfolds to the joined fields that `row_line` speaks of
    obtain ⟨hl, hv⟩ := row_line hf rfl (by decide)
    rcases more with _ | ⟨_, _ | ⟨_, _ | ⟨_, _⟩⟩⟩ <;> exact kygLine_muro st hl hv ha hu hb
  | ventana name a u o ff more an un fn =>
    obtain ⟨hf, hm, ha, hu, hff⟩ := h
    obtain ⟨hl, hv⟩ := row_line hf rfl (by decide)
    exact kygLine_ventana st hl hv (by simpa using hm) ha hu hff
  | ventanaLong name a u o ff g1 g2 g3 g4 cons more an un fn n1 n2 n3 n4 =>
    obtain ⟨hf, ha, hu, hff, h1, h2, h3, h4⟩ := h
    obtain ⟨hl, hv⟩ := row_line hf rfl (by decide)
    exact kygLine_ventanaLong st hl hv ha hu hff h1 h2 h3 h4
  | pptt l psi name more ln pn =>
    obtain ⟨hf, hln, hpn⟩ := h
    obtain ⟨hl, hv⟩ := row_line hf rfl (by decide)
    cases more <;> exact kygLine_pptt st hl hv hln hpn
  | kline tail pad val more kn =>
    obtain ⟨hf, hk⟩ := h
    obtain ⟨hl, hv⟩ := row_line hf rfl (by simp)
    exact kygLine_k st (startsWith_of_append hl) hv hk
  | hfactor d tail pad val more vn =>
    obtain ⟨hf, hd, hn⟩ := h
    obtain ⟨hl, hv⟩ := row_line hf rfl (List.cons_ne_nil d tail)
    exact kygLine_factor st hd (startsWith_of_append (p := [d]) hl) hv hn
  | gains name pad f1 f2 f3 f4 f5 f6 f7 more n1 n2 n3 n4 n5 n6 n7 =>
    obtain ⟨hf, hq1, hq2, h1, h2, h3, h4, h5, h6, h7⟩ := h
    obtain ⟨hl, hv⟩ := row_line hf rfl (List.cons_ne_nil _ _)
    exact kygLine_gains st (startsWith_of_append (p := ['"']) hl) hv (trimMatches_quoted ⟨hq1, hq2⟩) h1 h2 h3 h4 h5 h6 h7

theorem kygFold_rows (rows : List KRow) (hw : ∀ r ∈ rows, r.WF) (st : Kyg) :
    kygFold st (rows.map (fun r => trim r.line)) = .ok (rows.foldl KRow.apply st) := by
  induction rows generalizing st with
  | nil => rfl
  | cons r t ih =>
    simp only [List.map_cons, kygFold, kygLine_row st r (hw r (by simp)), List.foldl_cons]
    exact ih (fun x hx => hw x (by simp [hx])) _

theorem KRow.line_no_nl (r : KRow) (h : r.WF) : '\n' ∉ r.line := by
  have key {fs : List Fld} (hfs : fieldsOk fs) : '\n' ∉ joinWith [';'] (fs.map Fld.text) :=
    not_mem_joinWith (by decide) (List.forall_mem_map.mpr fun f hf => (hfs.1 f hf).2)
  cases r with
  | comment text => simpa [KRow.line] using h.1
  | blank ws => exact h.2
  | _ => exact key h.1

/-- every row with its own line end, CRLF or LF: the bodies of `ls` are the rows' lines.  A `\r` left at the end of a line
    does no harm, since `kyg::parse` trims every line. -/
theorem kygParse_render (rows : List KRow) (hw : ∀ r ∈ rows, r.WF) (ls : List PLine)
    (hb : ls.map (·.body) = rows.map KRow.line) : kygParse (render ls) = .ok (rows.foldl KRow.apply {}) := by
  have hn : ∀ b ∈ rows.map KRow.line, '\n' ∉ b := List.forall_mem_map.mpr fun r hr => r.line_no_nl (hw r hr)
  unfold kygParse
  rw [trim_linesOf_render fun l hl => hn _ (hb ▸ List.mem_map_of_mem hl), hb, List.map_map]
  exact kygFold_rows rows hw {}

/-- **whole file**, CRLF line ends: `Aux.kygParse` returns every wall, window, thermal bridge, factor and gains line as written,
    in file order.  (`kyg::parse` keeps walls, windows and thermal bridges in maps keyed by name — the last row of a name, in
    name order; the comparison with the code takes the model's rows last-by-name.) -/
theorem kygParse_file (rows : List KRow) (hw : ∀ r ∈ rows, r.WF) :
    kygParse ((rows.map KRow.line).flatMap (fun b => b ++ ['\r', '\n'])) = .ok (rows.foldl KRow.apply {}) :=
  render_map true ▸ kygParse_render rows hw _ (by simp [List.map_map])

/-- the same for LF line ends; the proof does not use `hcr` -/
theorem kygParse_file_lf (rows : List KRow) (hw : ∀ r ∈ rows, r.WF) (hcr : ∀ r ∈ rows, '\r' ∉ r.line) :
    kygParse ((rows.map KRow.line).flatMap (fun b => b ++ ['\n'])) = .ok (rows.foldl KRow.apply {}) :=
  render_map false ▸ kygParse_render rows hw _ (by simp [List.map_map])

/-- a row copied from a shipped file: `KRow.WF` can be met -/
def exVentana : KRow :=
  .ventana { core := "P01_E01_PE001_V".toList } { core := "1.70".toList } { core := "1.22".toList } { core := "S".toList, padR := [' '] }
    { core := "20.00".toList } [{ core := "0.63".toList }, { core := "-1.00".toList }, { core := "1.00".toList }]
    (Num.fin false 170 (-2)) (Num.fin false 122 (-2)) (Num.fin false 2000 (-2))

example : String.ofList exVentana.line = "Ventana;P01_E01_PE001_V;1.70;1.22;S ;20.00;0.63;-1.00;1.00" := by
  unfold exVentana; repeat rw [String.toList_ofList] -- see `exampleText_blocks`, `Props/C18.lean`
  exact congrArg String.ofList (by decide +kernel)

/-! for the examples: `fieldsOk` from a Boolean test -/

def fldOk (f : Fld) : Bool :=
  f.padL.all isWs && f.padR.all isWs && (cleanB f.core || f.core.isEmpty) && !f.text.contains ';' && !f.text.contains '\n'

theorem fldOk_wf (f : Fld) (h : fldOk f = true) : f.WF ∧ '\n' ∉ f.text := by
  simp only [fldOk, Bool.and_eq_true, Bool.or_eq_true, Bool.not_eq_true', List.all_eq_true] at h
  obtain ⟨⟨⟨⟨h1, h2⟩, h3⟩, h4⟩, h5⟩ := h
  exact ⟨⟨h1, h2, h3.imp clean_of_cleanB List.isEmpty_iff.mp, by simpa using h4⟩, by simpa using h5⟩

theorem fieldsOk_of {fs : List Fld} {g : Fld} (h : fs.all fldOk = true) (hg : fs.getLast? = some g) (hp : g.padR = [])
    (hc : Clean g.core) : fieldsOk fs :=
  ⟨fun f hf => fldOk_wf f (List.all_eq_true.mp h f hf), g, hg, hp, hc⟩

example : exVentana.WF := by
  unfold exVentana; repeat rw [String.toList_ofList]
  exact ⟨fieldsOk_of (by decide +kernel) rfl rfl (by decide +kernel),
    by decide, by decide +kernel, by decide +kernel, by decide +kernel⟩

def exMuro : KRow :=
  .muro { core := "P01_E01_PE001".toList } { core := "19.96".toList } { core := "0.27".toList } { core := "1.00".toList }
    [{ core := "Fachada".toList }, { core := "S".toList, padR := [' '] }, { core := "Muro Exterior".toList }]
    (Num.fin false 1996 (-2)) (Num.fin false 27 (-2)) (Num.fin false 100 (-2))

example : String.ofList exMuro.line = "Muro;P01_E01_PE001;19.96;0.27;1.00;Fachada;S ;Muro Exterior" := by
  unfold exMuro; repeat rw [String.toList_ofList]
  exact congrArg String.ofList (by decide +kernel)

example : exMuro.WF := by
  unfold exMuro; repeat rw [String.toList_ofList]
  exact ⟨fieldsOk_of (by decide +kernel) rfl rfl (by decide +kernel),
    by decide +kernel, by decide +kernel, by decide +kernel⟩

/-- the remaining line kinds as HULC writes them -/
example : ((kygLine {} "Coeficiente K = ;0,464".toList).toOption.map (·.k)) = some (some (Num.fin false 464 (-3))) := by
  rw [String.toList_ofList]; decide +kernel
example : ((kygLine {} "8 ; 220.007599".toList).toOption.map (·.hfactors)) = some [Num.fin false 220007599 (-6)] := by
  rw [String.toList_ofList]; decide +kernel
example : ((kygLine {} "\"P02_E01_PE001_V\"; 270.000000; 2.000000; 120642.843750; 113757.890625; 113757.890625; 113757.890625; 102382.109375".toList).toOption.map
    (fun k => k.gains.map (fun g => (String.ofList g.name, g.azimuth, g.h3)))) =
    some [("P02_E01_PE001_V", Num.fin false 270000000 (-6), Num.fin false 113757890625 (-6))] := by
  rw [String.toList_ofList]; decide +kernel

end Cte.Props.C18Kyg
