/-
C15 — The model checker reports exactly the broken links.
`brokenLinks` lists the broken links kind by kind and `Closed` says there is none (model: `Cte/Model/Check.lean`).
-/
import Cte.Model.Check
namespace Cte.C15

def Closed (m : Model) : Prop :=
  (∀ w ∈ m.walls, w.space ∈ m.spaceIds ∧ w.cons ∈ m.wallConsIds ∧
      ∀ n, w.nextTo = some n → n ∈ m.spaceIds) ∧
  (∀ w ∈ m.windows, w.wall ∈ m.wallIds ∧ w.cons ∈ m.winConsIds) ∧
  (∀ tb ∈ m.thermalBridges, ¬ tb.l < 0)

def brokenLinks (m : Model) : List Warn :=
  (m.walls.filter (fun w => !m.spaceIds.contains w.space)).map (fun w => ⟨w.id, .wallSpace⟩) ++
  (m.walls.filter (fun w => !m.wallConsIds.contains w.cons)).map (fun w => ⟨w.id, .wallCons⟩) ++
  (m.walls.filter (nextToBroken m.spaceIds)).map (fun w => ⟨w.id, .wallNextTo⟩) ++
  (m.windows.filter (fun w => !m.wallIds.contains w.wall)).map (fun w => ⟨w.id, .winWall⟩) ++
  (m.windows.filter (fun w => !m.winConsIds.contains w.cons)).map (fun w => ⟨w.id, .winCons⟩) ++
  (m.thermalBridges.filter (fun tb => decide (tb.l < 0))).map (fun tb => ⟨tb.id, .tbNegative⟩)

/-- (Mathlib's `List.flatMap_append_perm` reversed; no library is imported here) -/
theorem flatMap_append_perm {α β} (l : List α) (f g : α → List β) :
    (l.flatMap (fun x => f x ++ g x)).Perm (l.flatMap f ++ l.flatMap g) := by
  induction l with
  | nil => exact .nil
  | cons a t ih =>
    simp only [List.flatMap_cons, List.append_assoc]
    exact ((ih.append_left _).trans (List.perm_append_comm_assoc ..)).append_left _

theorem flatMap_ite_eq {α β} (l : List α) (p : α → Bool) (f : α → β) :
    l.flatMap (fun x => if p x then [f x] else []) = (l.filter p).map f := by
  induction l with
  | nil => rfl
  | cons a t ih =>
    by_cases h : p a <;> simp [List.flatMap_cons, h, ih]

theorem mem_ite_singleton {α} {c : Prop} [Decidable c] {a x : α} :
    x ∈ (if c then [a] else []) ↔ x = a ∧ c := by
  rw [List.mem_ite_nil_right, List.mem_singleton, and_comm]

theorem nextToBroken_iff {sp : List Id} {w : Wall} :
    nextToBroken sp w = true ↔ ∃ n, w.nextTo = some n ∧ n ∉ sp := by
  unfold nextToBroken; cases w.nextTo <;> simp

theorem mem_wallWarns {sp wc : List Id} {w : Wall} {x : Warn} : x ∈ wallWarns sp wc w ↔
    x = ⟨w.id, .wallSpace⟩ ∧ w.space ∉ sp ∨ x = ⟨w.id, .wallCons⟩ ∧ w.cons ∉ wc ∨
    ∃ n, x = ⟨w.id, .wallNextTo⟩ ∧ w.nextTo = some n ∧ n ∉ sp := by
  simp only [wallWarns, List.mem_append, mem_ite_singleton, nextToBroken_iff, Bool.not_eq_true',
    List.contains_eq_mem, decide_eq_false_iff_not, or_assoc, exists_and_left]

theorem mem_winWarns {wl wc : List Id} {w : Window} {x : Warn} : x ∈ winWarns wl wc w ↔
    x = ⟨w.id, .winWall⟩ ∧ w.wall ∉ wl ∨ x = ⟨w.id, .winCons⟩ ∧ w.cons ∉ wc := by
  simp only [winWarns, List.mem_append, mem_ite_singleton, Bool.not_eq_true',
    List.contains_eq_mem, decide_eq_false_iff_not]

theorem mem_tbWarns {tb : ThermalBridge} {x : Warn} :
    x ∈ tbWarns tb ↔ x = ⟨tb.id, .tbNegative⟩ ∧ tb.l < 0 := mem_ite_singleton

theorem wallWarns_eq_nil {sp wc : List Id} {w : Wall} : wallWarns sp wc w = [] ↔
    w.space ∈ sp ∧ w.cons ∈ wc ∧ ∀ n, w.nextTo = some n → n ∈ sp := by
  simp [wallWarns, nextToBroken_iff]

theorem winWarns_eq_nil {wl wc : List Id} {w : Window} :
    winWarns wl wc w = [] ↔ w.wall ∈ wl ∧ w.cons ∈ wc := by
  simp [winWarns]

theorem tbWarns_eq_nil {tb : ThermalBridge} : tbWarns tb = [] ↔ ¬ tb.l < 0 := by
  simp [tbWarns]

/-- as a multiset: one warning per broken link, nothing else -/
theorem check_exact (m : Model) : (check m).Perm (brokenLinks m) := by
  unfold check brokenLinks wallWarns winWarns tbWarns
  simp only [← flatMap_ite_eq, List.append_assoc, decide_eq_true_eq]
  -- walls: three parts, split twice; windows: two, split once; bridges: as is
  simpa only [List.append_assoc] using
    ((flatMap_append_perm _ _ _).trans ((flatMap_append_perm _ _ _).append_left _)).append
      ((flatMap_append_perm _ _ _).append (.refl _))

theorem check_mem_iff (m : Model) (x : Warn) :
    x ∈ check m ↔
      (∃ w ∈ m.walls, x = ⟨w.id, .wallSpace⟩ ∧ w.space ∉ m.spaceIds) ∨
      (∃ w ∈ m.walls, x = ⟨w.id, .wallCons⟩ ∧ w.cons ∉ m.wallConsIds) ∨
      (∃ w ∈ m.walls, ∃ n, x = ⟨w.id, .wallNextTo⟩ ∧ w.nextTo = some n ∧ n ∉ m.spaceIds) ∨
      (∃ w ∈ m.windows, x = ⟨w.id, .winWall⟩ ∧ w.wall ∉ m.wallIds) ∨
      (∃ w ∈ m.windows, x = ⟨w.id, .winCons⟩ ∧ w.cons ∉ m.winConsIds) ∨
      (∃ tb ∈ m.thermalBridges, x = ⟨tb.id, .tbNegative⟩ ∧ tb.l < 0) := by
  unfold check
  simp only [List.mem_append, List.mem_flatMap, mem_wallWarns, mem_winWarns, mem_tbWarns,
    and_or_left, exists_or, or_assoc]

theorem check_closed_silent (m : Model) : check m = [] ↔ Closed m := by
  unfold check Closed
  simp only [List.append_eq_nil_iff, List.flatMap_eq_nil_iff, wallWarns_eq_nil, winWarns_eq_nil,
    tbWarns_eq_nil, and_assoc]

/-- the id of a wall, a window or a bridge; which of the three goes with which kind of warning is in
`check_mem_iff`, not here -/
theorem check_ids (m : Model) (x : Warn) (h : x ∈ check m) :
    x.id ∈ m.wallIds ∨ x.id ∈ m.windows.map (·.id) ∨ x.id ∈ m.thermalBridges.map (·.id) := by
  unfold check at h
  simp only [List.mem_append, List.mem_flatMap, mem_wallWarns, mem_winWarns, mem_tbWarns] at h
  rcases h with (⟨w, hw, h⟩ | ⟨w, hw, h⟩) | ⟨tb, hw, h⟩
  · exact .inl (List.mem_map.2 ⟨w, hw, by rcases h with ⟨rfl, _⟩ | ⟨rfl, _⟩ | ⟨_, rfl, _⟩ <;> rfl⟩)
  · exact .inr (.inl (List.mem_map.2 ⟨w, hw, by rcases h with ⟨rfl, _⟩ | ⟨rfl, _⟩ <;> rfl⟩))
  · exact .inr (.inr (List.mem_map.2 ⟨tb, hw, h.1 ▸ rfl⟩))

/-- bounded by the number of links: "one warning per broken link" cannot be met by flooding -/
theorem check_length_le (m : Model) :
    (check m).length ≤ 3 * m.walls.length + 2 * m.windows.length + m.thermalBridges.length := by
  rw [(check_exact m).length_eq]
  unfold brokenLinks
  simp only [List.length_append, List.length_map]
  have h1 := List.length_filter_le (fun w : Wall => !m.spaceIds.contains w.space) m.walls
  have h2 := List.length_filter_le (fun w : Wall => !m.wallConsIds.contains w.cons) m.walls
  have h3 := List.length_filter_le (nextToBroken m.spaceIds) m.walls
  have h4 := List.length_filter_le (fun w : Window => !m.wallIds.contains w.wall) m.windows
  have h5 := List.length_filter_le (fun w : Window => !m.winConsIds.contains w.cons) m.windows
  have h6 := List.length_filter_le (fun tb : ThermalBridge => decide (tb.l < 0)) m.thermalBridges
  omega

/-! ## Non-vacuity -/

def exWall : Wall :=
  { id := "w1", bounds := .exterior, cons := "c1", space := "s9", nextTo := some "s8"
    geometry := { tilt := 90, azimuth := 0 } }
def exModel : Model :=
  { Model.dflt with
    walls := [exWall]
    spaces := [{ id := "s1", height := 3 }]
    thermalBridges := [{ id := "t1", l := -1, lSign := true }, { id := "t2", l := 0, lSign := true }] }

example : check exModel =
    [⟨"w1", .wallSpace⟩, ⟨"w1", .wallCons⟩, ⟨"w1", .wallNextTo⟩, ⟨"t1", .tbNegative⟩] := by decide

example : Closed Model.dflt := by
  refine ⟨?_, ?_, ?_⟩ <;> intro w hw <;> simp [Model.dflt] at hw

end Cte.C15
