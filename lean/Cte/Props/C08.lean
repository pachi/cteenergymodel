/-
C08 — K is the area-weighted mean transmittance of the thermal envelope.
The code accumulates in a loop (`kStep` folded over the envelope walls); the theorems identify
every accumulated figure with the sum the definition names.
-/
import Cte.Model.Energy
import Cte.Lemmas.Sum
namespace Cte.C08

abbrev inScope (w : WallP) : Bool := w.inKScope

/-- U used for an element: user override, else computed, else 5.7 W/m²K -/
def wallU (w : WallP) : Rat := (w.uOverride.orElse (fun _ => w.u.map (·.v))).getD U_DEFAULT
def winU (x : WinP) : Rat := (x.uOverride.orElse (fun _ => x.u)).getD U_DEFAULT

/-- the same list as the model's `winsOfWall` -/
def winsOf (wins : List WinP) (w : WallP) : List WinP := wins.filter (fun x => x.wall = w.id)

inductive Cat | ground | roofs | floors | walls
  deriving DecidableEq, Repr

/-- the case split of `kStep` on `(bounds, tilt)` -/
def catOf (w : WallP) : Cat :=
  match w.bounds, w.tilt with
  | .ground, _ => .ground
  | _, .top => .roofs
  | _, .bottom => .floors
  | _, .side => .walls

def accGet (a : KAcc) : Cat → KElem
  | .ground => a.ground
  | .roofs => a.roofs
  | .floors => a.floors
  | .walls => a.walls

def scope (walls : List WallP) : List WallP := walls.filter inScope

/-- Σ A over the opaque parts of category `c` (net areas, space multipliers) -/
def opaqueA (walls : List WallP) (c : Cat) : Rat :=
  rsum (((scope walls).filter (fun w => catOf w = c)).map (fun w => w.multiplier * w.areaNet))
def opaqueAU (walls : List WallP) (c : Cat) : Rat :=
  rsum (((scope walls).filter (fun w => catOf w = c)).map (fun w => w.multiplier * w.areaNet * wallU w))
/-- Σ A and Σ A·U over the windows of envelope elements -/
def windowsA (walls : List WallP) (wins : List WinP) : Rat :=
  rsum ((scope walls).map (fun w => rsum ((winsOf wins w).map (fun x => w.multiplier * x.area))))
def windowsAU (walls : List WallP) (wins : List WinP) : Rat :=
  rsum ((scope walls).map (fun w => rsum ((winsOf wins w).map (fun x => w.multiplier * x.area * winU x))))
/-- Σ ψ·L over bridges of non-negative length -/
def bridgesPsiL (tbs : List ThermalBridge) : Rat :=
  rsum ((tbs.filter (fun tb => ¬ tb.l < 0)).map (fun tb => tb.psi * tb.l))

/-! ## the loop: five independent accumulations -/

def winStep (m : Rat) (a : KAcc) (win : WinP) : KAcc :=
  { a with windows := a.windows.add (m * win.area) (winU win) }

theorem winFold_eq (m : Rat) (ws : List WinP) (acc : KAcc) :
    ws.foldl (winStep m) acc =
      { acc with windows := ws.foldl (fun e x => e.add (m * x.area) (winU x)) acc.windows } := by
  induction ws generalizing acc with
  | nil => rfl
  | cons x t ih => rw [List.foldl_cons, ih]; rfl

theorem kStep_eq (wins : List WinP) (acc : KAcc) (w : WallP) :
    kStep wins acc w =
      (let acc1 := (winsOf wins w).foldl (winStep w.multiplier) acc
       match catOf w with
       | .ground => { acc1 with ground := acc1.ground.add (w.multiplier * w.areaNet) (wallU w) }
       | .roofs => { acc1 with roofs := acc1.roofs.add (w.multiplier * w.areaNet) (wallU w) }
       | .floors => { acc1 with floors := acc1.floors.add (w.multiplier * w.areaNet) (wallU w) }
       | .walls => { acc1 with walls := acc1.walls.add (w.multiplier * w.areaNet) (wallU w) }) := by
  unfold kStep catOf winsOf wallU
  cases w.bounds <;> cases w.tilt <;> rfl

theorem kStep_windows (wins : List WinP) (acc : KAcc) (w : WallP) :
    (kStep wins acc w).windows =
      (winsOf wins w).foldl (fun e x => e.add (w.multiplier * x.area) (winU x)) acc.windows := by
  rw [kStep_eq, winFold_eq]; cases catOf w <;> rfl

theorem kStep_cat (wins : List WinP) (acc : KAcc) (w : WallP) (c : Cat) :
    accGet (kStep wins acc w) c =
      if catOf w = c then (accGet acc c).add (w.multiplier * w.areaNet) (wallU w) else accGet acc c := by
  rw [kStep_eq, winFold_eq]; cases catOf w <;> cases c <;> rfl

theorem addFold_spec {α} (a u : α → Rat) (l : List α) (e : KElem) :
    (l.foldl (fun e x => e.add (a x) (u x)) e).a = e.a + rsum (l.map a) ∧
    (l.foldl (fun e x => e.add (a x) (u x)) e).au = e.au + rsum (l.map (fun x => a x * u x)) :=
  ⟨foldl_rsum KElem.a (fun _ _ => rfl) l e, foldl_rsum KElem.au (fun _ _ => rfl) l e⟩

theorem kFold_spec (wins : List WinP) (ws : List WallP) (acc : KAcc) :
    let r := ws.foldl (kStep wins) acc
    r.windows.a = acc.windows.a + rsum (ws.map (fun w => rsum ((winsOf wins w).map (fun x => w.multiplier * x.area)))) ∧
    r.windows.au = acc.windows.au + rsum (ws.map (fun w => rsum ((winsOf wins w).map (fun x => w.multiplier * x.area * winU x)))) ∧
    (∀ c, (accGet r c).a = (accGet acc c).a + rsum ((ws.filter (fun w => catOf w = c)).map (fun w => w.multiplier * w.areaNet))) ∧
    (∀ c, (accGet r c).au = (accGet acc c).au + rsum ((ws.filter (fun w => catOf w = c)).map (fun w => w.multiplier * w.areaNet * wallU w))) := by
  refine ⟨?_, ?_, fun c => ?_, fun c => ?_⟩
  · exact foldl_rsum (fun r : KAcc => r.windows.a) (fun acc w => by rw [kStep_windows]; exact (addFold_spec ..).1) _ _
  · exact foldl_rsum (fun r : KAcc => r.windows.au) (fun acc w => by rw [kStep_windows]; exact (addFold_spec ..).2) _ _
  · rw [rsum_filter]
    exact foldl_rsum (fun r => (accGet r c).a) (fun acc w => by rw [kStep_cat]; split <;> simp [KElem.add, *]) _ _
  · rw [rsum_filter]
    exact foldl_rsum (fun r => (accGet r c).au) (fun acc w => by rw [kStep_cat]; split <;> simp [KElem.add, *]) _ _

@[simp] theorem withMean_a (e : KElem) : e.withMean.a = e.a := by unfold KElem.withMean; split <;> rfl
@[simp] theorem withMean_au (e : KElem) : e.withMean.au = e.au := by unfold KElem.withMean; split <;> rfl
@[simp] theorem withMean_uMin (e : KElem) : e.withMean.uMin = e.uMin := by unfold KElem.withMean; split <;> rfl
@[simp] theorem withMean_uMax (e : KElem) : e.withMean.uMax = e.uMax := by unfold KElem.withMean; split <;> rfl

/-- every category figure of `K_data` is the sum the definition names -/
theorem k_categories (walls : List WallP) (wins : List WinP) (tbs : List ThermalBridge) :
    let k := kData walls wins tbs
    k.ground.a = opaqueA walls .ground ∧ k.ground.au = opaqueAU walls .ground ∧
    k.roofs.a = opaqueA walls .roofs ∧ k.roofs.au = opaqueAU walls .roofs ∧
    k.floors.a = opaqueA walls .floors ∧ k.floors.au = opaqueAU walls .floors ∧
    k.walls.a = opaqueA walls .walls ∧ k.walls.au = opaqueAU walls .walls ∧
    k.windows.a = windowsA walls wins ∧ k.windows.au = windowsAU walls wins := by
  obtain ⟨h1, h2, h3, h4⟩ := kFold_spec wins (scope walls) {}
  simp only [kData, withMean_a, withMean_au]
  exact ⟨(h3 .ground).trans (zero_add _), (h4 .ground).trans (zero_add _), (h3 .roofs).trans (zero_add _),
    (h4 .roofs).trans (zero_add _), (h3 .floors).trans (zero_add _), (h4 .floors).trans (zero_add _),
    (h3 .walls).trans (zero_add _), (h4 .walls).trans (zero_add _), h1.trans (zero_add _), h2.trans (zero_add _)⟩

/-- walls + roofs + floors + ground = opaques; opaques + windows = A;
the bridge kinds add up to the bridge totals -/
theorem k_breakdown_sums (walls : List WallP) (wins : List WinP) (tbs : List ThermalBridge) :
    let k := kData walls wins tbs
    k.opaquesA = k.roofs.a + k.floors.a + k.walls.a + k.ground.a ∧
    k.opaquesAu = k.roofs.au + k.floors.au + k.walls.au + k.ground.au ∧
    k.windowsA = k.windows.a ∧ k.windowsAu = k.windows.au ∧
    k.a = k.opaquesA + k.windowsA ∧ k.au = k.opaquesAu + k.windowsAu + k.tbsPsil ∧
    k.tbsL = rsum (k.tbs.map (·.2.1)) ∧ k.tbsPsil = rsum (k.tbs.map (·.2.2)) := by
  simp only [kData, withMean_a, withMean_au, and_self]

theorem allTbKinds_count (k : TbKind) : allTbKinds.count k = 1 := by cases k <;> rfl

/-- the totals are the definition's sums and K is their quotient -/
theorem k_eq_spec (walls : List WallP) (wins : List WinP) (tbs : List ThermalBridge) :
    let k := kData walls wins tbs
    k.opaquesA = rsum ((scope walls).map (fun w => w.multiplier * w.areaNet)) ∧
    k.opaquesAu = rsum ((scope walls).map (fun w => w.multiplier * w.areaNet * wallU w)) ∧
    k.windowsA = windowsA walls wins ∧ k.windowsAu = windowsAU walls wins ∧
    k.tbsPsil = bridgesPsiL tbs ∧
    k.a = k.opaquesA + k.windowsA ∧
    k.au = k.opaquesAu + k.windowsAu + k.tbsPsil ∧
    k.k = if k.a < 1 / 100 then 0 else k.au / k.a := by
  obtain ⟨g, g', r, r', f, f', w, w', h1, h2⟩ := k_categories walls wins tbs
  obtain ⟨b1, b2, b3, b4, b5, b6, -⟩ := k_breakdown_sums walls wins tbs
  -- listed in the order in which `kData` adds them up, so that `cats` has the shape of `opaquesA`
  have cats := rsum_partition [Cat.roofs, .floors, .walls, .ground] (fun c => by cases c <;> rfl) catOf (scope walls)
  simp only [List.map_cons, List.map_nil, rsum_cons, rsum_nil, add_zero, ← add_assoc] at cats
  refine ⟨?_, ?_, b3.trans h1, b4.trans h2, ?_, b5, b6, rfl⟩
  · rw [b1, r, f, w, g]; exact cats _
  · rw [b2, r', f', w', g']; exact cats _
  · simp only [kData, bridgesPsiL, List.map_map, Function.comp_def, ← List.filter_filter]
    exact rsum_partition allTbKinds allTbKinds_count ThermalBridge.kind _ _

/-- only envelope elements in contact with air or ground (and their windows) count -/
theorem k_scope (walls : List WallP) (wins : List WinP) (tbs : List ThermalBridge) :
    kData walls wins tbs = kData (walls.filter inScope) wins tbs := by
  unfold kData
  rw [List.filter_filter]; simp only [inScope, Bool.and_self]

theorem k_override_precedence (w : WallP) :
    wallU w = match w.uOverride, w.u with
      | some o, _ => o
      | none, some u => u.v
      | none, none => 57 / 10 := by
  unfold wallU U_DEFAULT
  cases w.uOverride <;> cases w.u <;> rfl

theorem k_negative_bridge_ignored (tbs : List ThermalBridge) (tb : ThermalBridge) (h : tb.l < 0) :
    bridgesPsiL (tb :: tbs) = bridgesPsiL tbs := by
  simp [bridgesPsiL, h]

theorem k_perm_invariant (walls walls' : List WallP) (wins wins' : List WinP)
    (tbs tbs' : List ThermalBridge) (hw : walls.Perm walls') (hn : wins.Perm wins')
    (ht : tbs.Perm tbs') :
    let k := kData walls wins tbs
    let k' := kData walls' wins' tbs'
    k.a = k'.a ∧ k.au = k'.au ∧ k.k = k'.k := by
  have hs : (scope walls).Perm (scope walls') := hw.filter _
  have hwin : ∀ (w : WallP) (f : WinP → Rat), rsum ((winsOf wins w).map f) = rsum ((winsOf wins' w).map f) :=
    fun w f => rsum_perm ((hn.filter _).map _)
  simp only [k_eq_spec walls wins tbs, k_eq_spec walls' wins' tbs', windowsA, windowsAU, bridgesPsiL, hwin,
    rsum_perm (hs.map _), rsum_perm ((ht.filter _).map _), and_self]

/-- the windows of a wall are found by their `wall` link wherever they stand in the list -/
theorem areaNet_perm (F : Fns) (w : Wall) (wins wins2 : List Window) (h : wins.Perm wins2) :
    w.areaNet F wins = w.areaNet F wins2 := by
  unfold Wall.areaNet Wall.areaNetRaw
  rw [rsum_perm ((h.filter _).map _)]

def Bounded (e : KElem) : Prop :=
  e.uMean = none ∧ 0 ≤ e.a ∧ ((e.uMin = none ∧ e.uMax = none ∧ e.a = 0 ∧ e.au = 0) ∨
    ∃ lo hi, e.uMin = some lo ∧ e.uMax = some hi ∧ lo * e.a ≤ e.au ∧ e.au ≤ hi * e.a)

theorem bounded_empty : Bounded {} := ⟨rfl, le_refl _, Or.inl ⟨rfl, rfl, rfl, rfl⟩⟩

/-- one more term keeps `lo·ΣA ≤ ΣA·U ≤ hi·ΣA` when the bounds are widened to take in its `u` -/
theorem mean_step {lo hi u a area au : Rat} (h0 : 0 ≤ a) (ha : 0 ≤ area) (h : lo * a ≤ au ∧ au ≤ hi * a) :
    min lo u * (a + area) ≤ au + area * u ∧ au + area * u ≤ max hi u * (a + area) := by
  rw [mul_add, mul_add, mul_comm area u]
  exact ⟨add_le_add ((mul_le_mul_of_nonneg_right (min_le_left lo u) h0).trans h.1)
      (mul_le_mul_of_nonneg_right (min_le_right lo u) ha),
    add_le_add (h.2.trans (mul_le_mul_of_nonneg_right (le_max_left hi u) h0))
      (mul_le_mul_of_nonneg_right (le_max_right hi u) ha)⟩

theorem bounded_add {e : KElem} {area u : Rat} (h : Bounded e) (ha : 0 ≤ area) : Bounded (e.add area u) := by
  obtain ⟨hm, h0, h⟩ := h
  refine ⟨hm, add_nonneg h0 ha, Or.inr ?_⟩
  rcases h with ⟨h1, h2, h3, h4⟩ | ⟨lo, hi, h1, h2, h34⟩
  · refine ⟨u, u, by simp only [KElem.add, h1], by simp only [KElem.add, h2], ?_, ?_⟩ <;>
      simp only [KElem.add, h3, h4, zero_add, mul_comm u, le_refl]
  · exact ⟨min lo u, max hi u, by simp only [KElem.add, h1, rmin_eq_min], by simp only [KElem.add, h2, rmax_eq_max],
      mean_step h0 ha h34⟩

/-- for one accumulator that satisfies `Bounded`. That is shown of the empty accumulator, of `KElem.add` with
an area ≥ 0 and of one wall's window loop (`winFold_bounded`), not of the accumulators of `kData`. -/
theorem mean_between (e : KElem) (h : Bounded e) (lo hi mean : Rat)
    (hlo : e.withMean.uMin = some lo) (hhi : e.withMean.uMax = some hi)
    (hm : e.withMean.uMean = some mean) : lo ≤ mean ∧ mean ≤ hi := by
  obtain ⟨hmean, _, h⟩ := h
  rw [withMean_uMin] at hlo; rw [withMean_uMax] at hhi
  unfold KElem.withMean at hm
  split at hm
  · next ha =>
    have hpos : 0 < e.a := lt_trans (by norm_num) ha
    rcases h with ⟨h1, -⟩ | ⟨lo', hi', h1, h2, h3, h4⟩
    · rw [h1] at hlo; cases hlo
    · rw [h1] at hlo; rw [h2] at hhi; cases hlo; cases hhi; cases hm
      exact ⟨(le_div_iff₀ hpos).2 h3, (div_le_iff₀ hpos).2 h4⟩
  · rw [hmean] at hm; cases hm

theorem winFold_bounded (m : Rat) (hm : 0 ≤ m) (ws : List WinP) (hw : ∀ x ∈ ws, 0 ≤ x.area) (acc : KAcc)
    (h : Bounded acc.windows) : Bounded (ws.foldl (winStep m) acc).windows := by
  -- `refine`, not a term: as a term the motive would have to be found by unification
  refine List.foldlRecOn ws (winStep m) (motive := fun a => Bounded a.windows) h ?_
  exact fun a ha x hx => bounded_add ha (mul_nonneg hm (hw x hx))

def exWalls : List WallP :=
  [{ id := "a", bounds := .exterior, tilt := .side, orient := .s, areaGross := 12, areaNet := 10, multiplier := 2,
     isTenv := true, u := some { v := 1 / 2 }, uOverride := none },
   { id := "b", bounds := .ground, tilt := .bottom, orient := .hz, areaGross := 20, areaNet := 20, multiplier := 1,
     isTenv := true, u := none, uOverride := some (3 / 10) },
   { id := "c", bounds := .interior, tilt := .side, orient := .n, areaGross := 9, areaNet := 9, multiplier := 1,
     isTenv := true, u := some { v := 1 }, uOverride := none }]
def exWins : List WinP :=
  [{ id := "x", wall := "a", cons := "k", orient := .s, tilt := .side, area := 2, multiplier := 2, bounds := .exterior,
     isTenv := true, u := none, uOverride := none, fShobst := none, fShobstOverride := none }]
example : (kData exWalls exWins [{ id := "t", l := 10, psi := 1 / 10 }, { id := "u", l := -5, psi := 1 }]).k
    = (20 * (1 / 2) + 20 * (3 / 10) + 4 * (57 / 10) + 1) / 44 := by decide +kernel

end Cte.C08
