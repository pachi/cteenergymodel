/-
C12 — "the window's sample points": the points `ray_origins_for_window` casts rays from are points of the window.
For every window, wall pose and wall polygon, each sample point is the image of a point strictly inside
the window rectangle (in the frame of the wall polygon) on the set-back plane; there are `n_x · n_y ≥ 25` of them; along each
dimension the block centres average to the middle (`centres_sum`; the two-dimensional mean is not stated).
-/
import Cte.Model.Origins
import Cte.Lemmas.Sum
import Mathlib.Tactic.Ring
namespace Cte.C12Origins
open Cte.Place

theorem nBlocks_bounds (d : Rat) : 5 ≤ nBlocks d ∧ nBlocks d ≤ 10 :=
  ⟨Nat.le_max_left _ _, Nat.max_le.mpr ⟨by decide, Nat.min_le_left _ _⟩⟩

theorem centres_inside {o d : Rat} {n : Nat} (hd : 0 < d) {c : Rat} (hc : c ∈ centres o d n) : o < c ∧ c < o + d := by
  obtain ⟨i, hi, rfl⟩ := List.mem_map.mp hc
  have hlt : i < n := List.mem_range.mp hi
  have hn : (0 : Rat) < n := Nat.cast_pos.mpr (Nat.zero_lt_of_lt hlt)
  have hstep : 0 < d / n := div_pos hd hn
  have hi0 : (0 : Rat) < i + 1 / 2 := add_pos_of_nonneg_of_pos (Nat.cast_nonneg i) (by norm_num)
  have hin : (i : Rat) + 1 / 2 < n :=
    lt_of_lt_of_le (add_lt_add_right (by norm_num) _) (show (i : Rat) + 1 ≤ n by exact_mod_cast hlt)
  refine ⟨lt_add_of_pos_right o (mul_pos hi0 hstep), add_lt_add_right ?_ o⟩
  calc ((i : Rat) + 1 / 2) * (d / n) < n * (d / n) := mul_lt_mul_of_pos_right hin hstep
    _ = d := mul_div_cancel₀ d hn.ne'

theorem centres_length (o d : Rat) (n : Nat) : (centres o d n).length = n := by simp [centres]

/-- **the sample points are points of the window**: each origin is the global image of a point `(u, v)` of the wall-polygon frame with
    `x < u < x + w`, `y < v < y + h`, at depth `−setback` -/
theorem origins_on_window (pos : Vec3) (az t e : Ang) (v0 : Rat × Rat) (x y w h s : Rat) (hw : 0 < w) (hh : 0 < h)
    (P : Vec3) (hP : P ∈ rayOrigins pos az t e v0 x y w h s) :
    ∃ u v, x < u ∧ u < x + w ∧ y < v ∧ v < y + h ∧
      P = wallToWorld pos az t ⟨(polyToWall e v0 (u, v)).1, (polyToWall e v0 (u, v)).2, -s⟩ := by
  unfold rayOrigins at hP
  obtain ⟨p, hp, rfl⟩ := List.mem_map.mp hP
  unfold samplePoints at hp
  obtain ⟨py, hpy, hp2⟩ := List.mem_flatMap.mp hp
  obtain ⟨px, hpx, rfl⟩ := List.mem_map.mp hp2
  exact ⟨px, py, (centres_inside hw hpx).1, (centres_inside hw hpx).2, (centres_inside hh hpy).1,
    (centres_inside hh hpy).2, rfl⟩

theorem origins_count (pos : Vec3) (az t e : Ang) (v0 : Rat × Rat) (x y w h s : Rat) :
    (rayOrigins pos az t e v0 x y w h s).length = nBlocks w * nBlocks h ∧
    25 ≤ (rayOrigins pos az t e v0 x y w h s).length ∧ (rayOrigins pos az t e v0 x y w h s).length ≤ 100 := by
  have hlen : (rayOrigins pos az t e v0 x y w h s).length = nBlocks w * nBlocks h := by
    simp [rayOrigins, samplePoints, centres_length, List.length_flatMap, Nat.mul_comm]
  rw [hlen]
  exact ⟨rfl, Nat.mul_le_mul (nBlocks_bounds w).1 (nBlocks_bounds h).1, Nat.mul_le_mul (nBlocks_bounds w).2 (nBlocks_bounds h).2⟩

theorem midpoints_sum (o s : Rat) (m : Nat) :
    rsum ((List.range m).map fun (i : Nat) => o + ((i : Rat) + 1 / 2) * s) = m * (o + m * s / 2) := by
  induction m with
  | zero => simp
  | succ k ih =>
    rw [List.range_succ, List.map_append, rsum_append, ih]
    simp only [List.map_cons, List.map_nil, rsum_cons, rsum_nil]
    push_cast
    ring

/-- the block centres along one dimension average to the middle of the interval -/
theorem centres_sum (o d : Rat) (n : Nat) (hn : 0 < n) : rsum (centres o d n) = (n : Rat) * (o + d / 2) := by
  rw [centres, midpoints_sum, mul_div_cancel₀ d (Nat.cast_ne_zero.mpr hn.ne')]

end Cte.C12Origins
