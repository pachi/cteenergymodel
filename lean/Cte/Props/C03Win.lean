/-
C03 — overhangs and fins of a window keep their place relative to the window and the wall.
Stated in the wall's own frame (`wallToWorld`): local x along the wall, y up the wall, z along its outward normal.
-/
import Cte.Model.PlacementWin
import Cte.Lemmas.Rot
namespace Cte.Props.C03W
open Cte.Place

/-- **overhang**: whatever the pose of the wall, the four corners of the overhang are, in the wall's frame,
the hinge `(x − a, y + h + b, 0) … (x − a + width, y + h + b, 0)` lying in the wall plane above the window head, and the outer edge
`depth·cos(angle)` further down the wall and `depth·sin(angle)` out of it: perpendicular to the wall for 90°, flat against it for 0° -/
theorem overhang_corners (pos : Vec3) (az t : Ang) (x y h a b depth width : Rat) (ang : Ang) :
    overhangCorners pos az t x y h a b depth width ang =
      [wallToWorld pos az t ⟨x - a, y + h + b, 0⟩,
       wallToWorld pos az t ⟨x - a, y + h + b - depth * ang.c, depth * ang.s⟩,
       wallToWorld pos az t ⟨x - a + width, y + h + b - depth * ang.c, depth * ang.s⟩,
       wallToWorld pos az t ⟨x - a + width, y + h + b, 0⟩] := by
  simp [overhangCorners, Ang.sub, toGlobal_tilt_add, Ang.neg, sub_eq_add_neg]

theorem fin_point (pos p : Vec3) (az : Ang) (u v : Rat) :
    toGlobal (wallToWorld pos az Ang.half p) (Ang.add az (Ang.neg Ang.half)) Ang.half u v =
      wallToWorld pos az Ang.half ⟨p.x, p.y + v, p.z + u⟩ := by
  simpa [Ang.half] using toGlobal_az_sub_half pos p az Ang.half u v

/-- **fins** of a window in a vertical wall (tilt 90°): each fin is the rectangle that starts on the wall plane at the given offsets
from the window's upper corner, hangs down `height` along the wall and stands out `depth` along the wall's outward normal —
perpendicular to the wall, on the left of the window and on its right -/
theorem left_fin_corners_vertical (pos : Vec3) (az : Ang) (x y h a b depth height : Rat) :
    leftFinCorners pos az Ang.half x y h a b depth height =
      [wallToWorld pos az Ang.half ⟨x - a, y + h - b, 0⟩,
       wallToWorld pos az Ang.half ⟨x - a, y + h - b - height, 0⟩,
       wallToWorld pos az Ang.half ⟨x - a, y + h - b - height, depth⟩,
       wallToWorld pos az Ang.half ⟨x - a, y + h - b, depth⟩] := by
  simp [leftFinCorners, fin_point, sub_eq_add_neg]

theorem right_fin_corners_vertical (pos : Vec3) (az : Ang) (x y w h a b depth height : Rat) :
    rightFinCorners pos az Ang.half x y w h a b depth height =
      [wallToWorld pos az Ang.half ⟨x + w + a, y + h - b, 0⟩,
       wallToWorld pos az Ang.half ⟨x + w + a, y + h - b - height, 0⟩,
       wallToWorld pos az Ang.half ⟨x + w + a, y + h - b - height, depth⟩,
       wallToWorld pos az Ang.half ⟨x + w + a, y + h - b, depth⟩] := by
  simp [rightFinCorners, fin_point, sub_eq_add_neg]

/-- the polygons of the devices: the overhang is `width × depth`, a fin `depth × height` -/
theorem overhang_area (depth width : Rat) : shoelace2 [(0, 0), (0, -depth), (width, -depth), (width, 0)] = 2 * (width * depth) := by
  simp only [shoelace2, shoelaceFrom, cross2]; ring

theorem fin_area (depth height : Rat) : shoelace2 [(0, 0), (0, -height), (depth, -height), (depth, 0)] = 2 * (depth * height) :=
  overhang_area height depth

/-- a south wall at the origin (azimuth 0: outward normal towards −y), window at (1, 1) 1.5 m high with a 0.5 m overhang at 90°,
0.2 m above the head: the outer edge is 0.5 m in front of the wall -/
example : overhangCorners ⟨0, 0, 0⟩ Ang.zero Ang.half 1 1 (3 / 2) 0 (1 / 5) (1 / 2) 2 Ang.half
    = [⟨1, 0, 27 / 10⟩, ⟨1, -1 / 2, 27 / 10⟩, ⟨3, -1 / 2, 27 / 10⟩, ⟨3, 0, 27 / 10⟩] := by decide +kernel

end Cte.Props.C03W
