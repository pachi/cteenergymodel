/-
C13 — Ray casting: accelerated queries equal exhaustive ones and match exact geometry.
Part 1: the tree logic (any element, box and ray types): the recursive query and the explicit-stack walk of `Model/Bvh.lean`; its
instance with exact boxes; the bounding box of a polygon.
-/
import Cte.Model.Bvh
import Cte.Model.Box
import Cte.Lemmas.Box
import Mathlib.Data.List.Induction
namespace Cte.C13
open Cte.Bvh

variable {E Box Ray : Type}

theorem foldl_hit (o : Ops E Box Ray) (L : Laws o) (r : Ray) (es : List E) (b : Box)
    (h : o.boxHit r b = true ∨ es.any (o.hit r) = true) :
    o.boxHit r (es.foldl (fun b e => o.join b (o.box e)) b) = true := by
  induction es generalizing b with
  | nil => simpa using h
  | cons a t ih =>
    rw [List.any_cons, Bool.or_eq_true] at h
    apply ih
    obtain h | h | h := h
    exacts [.inl (L.mono_l r b _ h), .inl (L.sound r a b h), .inr h]

theorem boxOf_hit (o : Ops E Box Ray) (L : Laws o) (r : Ray) (es : List E)
    (h : es.any (o.hit r) = true) : o.boxHit r (boxOf o es) = true :=
  foldl_hit o L r es o.empty (Or.inr h)

theorem any_partition (p q : E → Bool) (es : List E) :
    ((es.partition p).1.any q || (es.partition p).2.any q) = es.any q := by
  rw [List.partition_eq_filter_filter, ← List.any_append]
  exact (List.filter_append_perm p es).any_eq

theorem items_any_build (o : Ops E Box Ray) (k : Nat) (q : E → Bool) (es : List E) :
    (items (build o k es)).any q = es.any q := by
  fun_induction build o k es with
  | case1 | case2 => rfl
  | case3 es h lr hd l r ihl ihr => simp only [items, List.any_append, l, r, lr, ihl, ihr, any_partition]

/-- with the invariant that makes pruning safe: the box at the root of a subtree is met whenever an element below it is hit,
so `boxHit && x` is `x` -/
theorem build_spec (o : Ops E Box Ray) (L : Laws o) (k : Nat) (r : Ray) (es : List E) :
    query o r (build o k es) = es.any (o.hit r) ∧
      (es.any (o.hit r) = true → o.boxHit r (build o k es).box = true) := by
  fun_induction build o k es with
  | case1 es | case2 es => exact ⟨Bool.and_eq_right_iff_imp.2 (boxOf_hit o L r es), boxOf_hit o L r es⟩
  | case3 es h lr hd l rt ihl ihr =>
    have key : es.any (o.hit r) = true → o.boxHit r (o.join l.box rt.box) = true := by
      rw [← any_partition (o.sel es), Bool.or_eq_true]
      rintro (hh | hh)
      exacts [L.mono_l r _ _ (ihl.2 hh), L.mono_r r _ _ (ihr.2 hh)]
    refine ⟨?_, key⟩
    rw [query, ihl.1, ihr.1, any_partition]
    exact Bool.and_eq_right_iff_imp.2 key

/-- for every element list (none, one, many, coinciding centres), leaf size and ray.  Termination of the build is part of
it: `build` is total (recursion on `es.length`; a partition with an empty side is a leaf). -/
theorem bvh_eq_exhaustive (o : Ops E Box Ray) (L : Laws o) (k : Nat) (r : Ray) (es : List E) :
    query o r (build o k es) = es.any (o.hit r) :=
  (build_spec o L k r es).1

/-- **the explicit-stack traversal of the code is the recursive pre-order query**: for every stack of subtrees, `PreorderIter` +
    `BVH::intersects` answer "some subtree on the stack is hit" -/
theorem walk_eq_any (o : Ops E Box Ray) (r : Ray) (st : List (Tree E Box)) :
    walk o r st = st.any (query o r) := by
  fun_induction walk o r st with
  | case1 => rfl
  | case2 b es st hb he => simp [query, hb, he]
  | case3 b es st hb he ih => simp [query, hb, he, ih]
  | case4 b es st hb ih => simp [query, hb, ih]
  | case5 b l rt st hb ih => simp [query, hb, ih, Bool.or_assoc]
  | case6 b l rt st hb ih => simp [query, hb, ih]

theorem walk_eq_query (o : Ops E Box Ray) (r : Ray) (t : Tree E Box) : walk o r [t] = query o r t := by
  rw [walk_eq_any]; simp

/-- the code's own tree: `C13Iter` -/
theorem walk_eq_exhaustive (o : Ops E Box Ray) (L : Laws o) (k : Nat) (r : Ray) (es : List E) :
    walk o r [build o k es] = es.any (o.hit r) := by
  rw [walk_eq_query]; exact bvh_eq_exhaustive o L k r es

/-- the arms of `build`; the first also for a whole input of at most `k` elements (finding F-C13a: the code dropped that leaf) -/
theorem build_small (o : Ops E Box Ray) (k : Nat) (es : List E) (h : es.length ≤ k) :
    build o k es = .leaf (boxOf o es) es := by
  rw [build, if_pos h]

theorem build_degenerate (o : Ops E Box Ray) (k : Nat) (es : List E) (hk : k < es.length)
    (hd : (es.partition (o.sel es)).1 = [] ∨ (es.partition (o.sel es)).2 = []) :
    build o k es = .leaf (boxOf o es) es := by
  rw [build]; simp only [Nat.not_le.mpr hk, if_false, hd, dite_true]

theorem build_node (o : Ops E Box Ray) (k : Nat) (es : List E) (hk : k < es.length)
    (hd : ¬((es.partition (o.sel es)).1 = [] ∨ (es.partition (o.sel es)).2 = [])) :
    build o k es = .node (o.join (build o k (es.partition (o.sel es)).1).box (build o k (es.partition (o.sel es)).2).box)
      (build o k (es.partition (o.sel es)).1) (build o k (es.partition (o.sel es)).2) := by
  rw [build]; simp only [Nat.not_le.mpr hk, if_false, hd, dite_false]

theorem bvh_empty (o : Ops E Box Ray) (k : Nat) (r : Ray) : query o r (build o k []) = false := by
  rw [build_small o k [] (Nat.zero_le _)]; simp [query]

theorem bvh_boxes_eq_exhaustive (k : Nat) (r : RayQ) (es : List Box3) :
    query boxOps r (build boxOps k es) = es.any (fun e => e.hit r) :=
  bvh_eq_exhaustive boxOps boxLaws k r es

/-- the slab test answers whether the half line meets the box -/
theorem slab_test_exact (r : RayQ) (b : Box3) : b.hit r = true ↔ ∃ t, 0 ≤ t ∧ b.contains r t := Box3.hit_iff r b

theorem join_contains (a b : Box3) (r : RayQ) (t : Rat) :
    (a.contains r t → (a.join b).contains r t) ∧ (b.contains r t → (a.join b).contains r t) :=
  ⟨fun h => Box3.contains_join (.inl h), fun h => Box3.contains_join (.inr h)⟩

/-- the fold of `WallGeom::aabb` seen from the last corner -/
theorem aabb_snoc {pts : List V3} {a : Box3} (q : V3) (h : aabbOfPoints pts = some a) :
    aabbOfPoints (pts ++ [q]) = some (a.join (Box3.ofPoint q)) := by
  unfold aabbOfPoints at h ⊢
  rw [List.foldl_append, h]
  rfl

theorem attained_snoc (f : V3 → Rat) {l : List V3} {m : Rat} (q : V3) (h : ∃ p ∈ l, f p = m) :
    (∃ p ∈ l ++ [q], f p = rmin m (f q)) ∧ (∃ p ∈ l ++ [q], f p = rmax m (f q)) := by
  obtain ⟨p, hp, rfl⟩ := h
  have hp' : p ∈ l ++ [q] := List.mem_append_left _ hp
  have hq : q ∈ l ++ [q] := List.mem_concat_self
  rw [rmin_eq_min, rmax_eq_max]
  constructor
  · rcases min_choice (f p) (f q) with e | e <;> rw [e]
    exacts [⟨p, hp', rfl⟩, ⟨q, hq, rfl⟩]
  · rcases max_choice (f p) (f q) with e | e <;> rw [e]
    exacts [⟨p, hp', rfl⟩, ⟨q, hq, rfl⟩]

/-- `WallGeom::aabb` computes the bounding box: as soon as there is a corner the box exists, holds every corner, and each of
its six faces passes through one -/
theorem aabb_bounding (pts : List V3) (hne : pts ≠ []) :
    ∃ b, aabbOfPoints pts = some b ∧ (∀ p ∈ pts, b.hasPoint p) ∧
      (∃ p ∈ pts, p.x = b.lo.x) ∧ (∃ p ∈ pts, p.x = b.hi.x) ∧ (∃ p ∈ pts, p.y = b.lo.y) ∧
      (∃ p ∈ pts, p.y = b.hi.y) ∧ (∃ p ∈ pts, p.z = b.lo.z) ∧ (∃ p ∈ pts, p.z = b.hi.z) := by
  induction pts using List.reverseRecOn with
  | nil => exact absurd rfl hne
  | append_singleton l q ih =>
    have hq : q ∈ l ++ [q] := List.mem_concat_self
    rcases eq_or_ne l [] with rfl | hl
    · refine ⟨_, rfl, fun p hp => ?_, ⟨q, hq, rfl⟩, ⟨q, hq, rfl⟩, ⟨q, hq, rfl⟩, ⟨q, hq, rfl⟩, ⟨q, hq, rfl⟩, ⟨q, hq, rfl⟩⟩
      obtain rfl := List.mem_singleton.mp hp
      exact Box3.hasPoint_ofPoint p
    · obtain ⟨a, ha, h0, h1, h2, h3, h4, h5, h6⟩ := ih hl
      refine ⟨_, aabb_snoc q ha, fun p hp => ?_, (attained_snoc (·.x) q h1).1, (attained_snoc (·.x) q h2).2,
        (attained_snoc (·.y) q h3).1, (attained_snoc (·.y) q h4).2, (attained_snoc (·.z) q h5).1, (attained_snoc (·.z) q h6).2⟩
      rcases List.mem_append.mp hp with h | h
      · exact Box3.hasPoint_join (.inl (h0 p h))
      · obtain rfl := List.mem_singleton.mp h
        exact Box3.hasPoint_join (.inr (Box3.hasPoint_ofPoint p))

/-- any list of corners: any polygon, position, tilt and azimuth -/
theorem aabb_contains_corners (pts : List V3) (p : V3) (hp : p ∈ pts) :
    ∃ b, aabbOfPoints pts = some b ∧ b.hasPoint p := by
  obtain ⟨b, hb, h, _⟩ := aabb_bounding pts (List.ne_nil_of_mem hp)
  exact ⟨b, hb, h p hp⟩

/-- the box is no larger than needed -/
theorem aabb_faces_touch (pts : List V3) (b : Box3) (h : aabbOfPoints pts = some b) :
    (∃ p ∈ pts, p.x = b.lo.x) ∧ (∃ p ∈ pts, p.x = b.hi.x) ∧ (∃ p ∈ pts, p.y = b.lo.y) ∧
    (∃ p ∈ pts, p.y = b.hi.y) ∧ (∃ p ∈ pts, p.z = b.lo.z) ∧ (∃ p ∈ pts, p.z = b.hi.z) := by
  obtain ⟨b', hb, _, hf⟩ := aabb_bounding pts (by rintro rfl; cases h)
  obtain rfl := Option.some.inj (h.symm.trans hb)
  exact hf

example : aabbOfPoints [⟨1, 5, 0⟩, ⟨-2, 7, 3⟩, ⟨0, 6, -1⟩] = some { lo := ⟨-2, 5, -1⟩, hi := ⟨1, 7, 3⟩ } := by decide +kernel

/-! ## test vectors: 40 identical boxes (coinciding centres, finding F-C13c) with a ray through them; one box, ray pointing
away -/
def unitBox : Box3 := { lo := ⟨0, 0, 0⟩, hi := ⟨1, 1, 1⟩ }
def rayThrough : RayQ := { o := ⟨-1, 1 / 2, 1 / 2⟩, d := ⟨1, 0, 0⟩ }
def rayAway : RayQ := { o := ⟨-1, 1 / 2, 1 / 2⟩, d := ⟨-1, 0, 0⟩ }
example : query boxOps rayThrough (build boxOps 30 (List.replicate 40 unitBox)) = true := by
  rw [bvh_boxes_eq_exhaustive]; decide +kernel
example : query boxOps rayAway (build boxOps 30 [unitBox]) = false := by
  rw [bvh_boxes_eq_exhaustive]; decide +kernel

end Cte.C13
