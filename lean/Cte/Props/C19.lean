/-
  C19 — Damaged project files are rejected with an error, never with a crash or hang.

  What is proved is about the model: the two places where the conversion indexed or subtracted on values read from the
  file (`Damage.edgeVertices` here, `periodLengths` in `C19Periods`), and that `BdlData.dataNew`, whose result type has a
  `panic` case, never reaches it.  The rest of the property is decided on the implementation by the fault enumeration
  (tools/props/c19.py).
-/
import Cte.Model.Damage
import Cte.Model.Schedules
import Cte.Model.BdlData
import Cte.Model.Pipeline
import Cte.Props.C02

namespace Cte.Props.C19
open Cte.Damage

/-- exact characterisation of the accepted names: `V` followed by a `usize` literal `k` with `1 ≤ k ≤ n` -/
theorem edgeVertices_some_iff (name : List Char) (n i j : Nat) :
    edgeVertices name n = some (i, j) ↔
      ∃ r k, name = 'V' :: r ∧ parseUsize r = some k ∧ 1 ≤ k ∧ k ≤ n ∧ i = k - 1 ∧ j = k % n := by
  constructor
  · intro h
    unfold edgeVertices at h
    split at h
    · rename_i r
      split at h
      · rename_i k hk
        rw [Option.ite_none_left_eq_some, Option.ite_none_right_eq_some] at h
        obtain ⟨h0, h1, h⟩ := h
        cases h
        exact ⟨r, k, rfl, hk, Nat.pos_of_ne_zero h0, Nat.le_of_pred_lt h1, rfl, rfl⟩
      · cases h
    · cases h
  · rintro ⟨r, k, rfl, hk, h1, h2, rfl, rfl⟩
    unfold edgeVertices
    simp only [hk]
    rw [if_neg (Nat.ne_of_gt h1), if_pos (Nat.sub_one_lt_of_le h1 h2)]

theorem edgeVertices_eq_none (name : List Char) (n : Nat)
    (h : ∀ r k, name = 'V' :: r → parseUsize r = some k → k = 0 ∨ n < k) : edgeVertices name n = none := by
  refine Option.eq_none_iff_forall_ne_some.mpr fun ⟨i, j⟩ hij => ?_
  obtain ⟨r, k, e, hk, h1, h2, -⟩ := (edgeVertices_some_iff name n i j).mp hij
  exact (h r k e hk).elim (Nat.ne_of_gt h1) (Nat.not_lt_of_le h2)

/-- index safety: whatever the vertex name written in the file and whatever the outline, the two indices
    handed to the outline are inside it, and the second is the cyclic successor of the first -/
theorem edgeVertices_safe (name : List Char) (n i j : Nat)
    (h : edgeVertices name n = some (i, j)) : i < n ∧ j < n ∧ j = (i + 1) % n := by
  obtain ⟨r, k, -, -, h1, h2, rfl, rfl⟩ := (edgeVertices_some_iff name n i j).mp h
  exact ⟨Nat.sub_one_lt_of_le h1 h2, Nat.mod_lt _ (Nat.lt_of_lt_of_le h1 h2), by rw [Nat.sub_add_cancel h1]⟩

/-- a name that does not start with `V` (`BOTTOM`, `TOP`, …) gives `none`: the caller's error path, not an index -/
theorem edgeVertices_none_of_not_V (name : List Char) (n : Nat)
    (h : ∀ r, name ≠ 'V' :: r) : edgeVertices name n = none :=
  edgeVertices_eq_none name n fun r _ e => absurd e (h r)

theorem edgeVertices_zero (r : List Char) (n : Nat) (h : parseUsize r = some 0) :
    edgeVertices ('V' :: r) n = none :=
  edgeVertices_eq_none _ n fun r' k e hk => by cases e; rw [h] at hk; cases hk; exact Or.inl rfl

theorem edgeVertices_past (r : List Char) (k n : Nat) (h : parseUsize r = some k) (hk : n < k) :
    edgeVertices ('V' :: r) n = none :=
  edgeVertices_eq_none _ n fun r' k' e hk' => by cases e; rw [h] at hk'; cases hk'; exact Or.inr hk

/-- the edge that starts at the last vertex closes on the first -/
theorem edgeVertices_last_wraps (r : List Char) (n : Nat) (hn : 0 < n) (h : parseUsize r = some n) :
    edgeVertices ('V' :: r) n = some (n - 1, 0) :=
  (edgeVertices_some_iff _ n _ _).mpr ⟨r, n, rfl, h, hn, Nat.le_refl n, rfl, (Nat.mod_self n).symm⟩

theorem edgeVertices_empty (name : List Char) : edgeVertices name 0 = none :=
  edgeVertices_eq_none name 0 fun _ k _ _ => k.eq_zero_or_pos

/-- the literals the shipped files and the damaged ones contain -/
example : edgeVertices "V1".toList 4 = some (0, 1) := by decide +kernel
example : edgeVertices "V4".toList 4 = some (3, 0) := by decide +kernel
example : edgeVertices "V+2".toList 4 = some (1, 2) := by decide +kernel
example : edgeVertices "V0".toList 4 = none := by decide +kernel
example : edgeVertices "V5".toList 4 = none := by decide +kernel
example : edgeVertices "BOTTOM".toList 4 = none := by decide +kernel
example : edgeVertices "V-1".toList 4 = none := by decide +kernel
example : edgeVertices "V".toList 4 = none := by decide +kernel

/-- `Damage.verdict` has no branch that returns `crashed`: true by construction, whatever the two stages are.  For the
    modelled parser see `pipeline_never_crashes`. -/
theorem verdict_never_crashes {E D M : Type} (parse : String → Except E D) (conv : D → Except E M)
    (text : String) : verdict parse conv text ≠ Verdict.crashed := by
  unfold verdict
  split
  · simp
  · split <;> simp

/-! ### year schedules: day counts between end dates (`Props/C19Periods.lean`) -/

example : Cte.periodLengths [31, 59, 365] = some [31, 28, 306] := by decide +kernel
example : Cte.periodLengths [59, 31, 365] = none := by decide +kernel

/-! ### the typed-element layer (`Data::new`) cannot crash

`Res` has a `panic` constructor so that the implementation's three outcomes can be mapped onto the model's; after the
repairs (FLOOR X/Y assertion, air-gap name byte slice) no function of the model produces it. -/

section
open Cte.BdlData

/-- for the `if` chains of `dbStep` and `envStep`, one arm per block type: `split` would rewrite all remaining arms at every `if`;
    this hands them on untouched -/
theorem ite_ne {α : Sort _} {c : Prop} [Decidable c] {x y z : α} (hx : x ≠ z) (hy : y ≠ z) : (if c then x else y) ≠ z := by
  split <;> assumption

theorem floorOf_no_panic (b : Cte.Bdl.Block) (p : String) : floorOf b ≠ .panic p := by
  unfold floorOf
  refine ite_ne nofun ?_
  split <;> nofun

theorem wallConsOf_no_panic (b : Cte.Bdl.Block) (p : String) : wallConsOf b ≠ .panic p := by
  unfold wallConsOf
  dsimp only
  split
  · nofun
  · nofun
  · split
    · nofun
    · exact ite_ne nofun nofun

theorem foldRes_no_panic {σ α : Type} {f : σ → α → Res σ} (hf : ∀ s x p, f s x ≠ .panic p) {l : List α} {s : σ} {p : String} :
    foldRes f s l ≠ .panic p := by
  induction l generalizing s with
  | nil => nofun
  | cons x t ih =>
    unfold foldRes
    cases hfx : f s x with
    | ok s' => exact ih
    | err e => nofun
    | panic q => exact absurd hfx (hf s x q)

theorem dbStep_no_panic (st : DbSt) (b : Cte.Bdl.Block) (p : String) : dbStep st b ≠ .panic p := by
  unfold dbStep
  refine ite_ne ?_ <| ite_ne ?_ <| ite_ne ?_ <| ite_ne ?_ <| ite_ne ?layers ?_
  case layers =>
    -- the one arm whose callee, `wallConsOf`, has a `panic` case, which is passed on
    split
    · nofun
    · nofun
    · exact absurd ‹_› (wallConsOf_no_panic b _)
  -- the other arms turn an `Except` into `.ok` / `.err`
  all_goals split <;> nofun

theorem envStep_no_panic {floors wc} (st : EnvSt) (b : Cte.Bdl.Block) (p : String) : envStep floors wc st b ≠ .panic p := by
  unfold envStep
  refine ite_ne ?_ <| ite_ne ?_ <| ite_ne ?_ <| ite_ne ?_ ?_
  -- in each arm every `match` rejects with `.err` or goes on to the next, and the last accepts with `.ok`
  all_goals repeat' split
  all_goals nofun

theorem dataOfBlocks_no_panic (blocks : List Cte.Bdl.Block) (p : String) : dataOfBlocks blocks ≠ .panic p := by
  unfold dataOfBlocks
  dsimp only
  -- a ladder of `match`es that reject or go on; three of them pass on the `panic` of a `foldRes`, whose steps have none
  split
  · nofun
  · exact absurd ‹_› (foldRes_no_panic dbStep_no_panic)
  split
  · nofun
  split
  · nofun
  split
  · nofun
  · refine absurd ‹_› (foldRes_no_panic fun _ b _ => ?_)
    split
    · nofun
    · nofun
    · exact absurd ‹_› (floorOf_no_panic b _)
  split
  · nofun
  split
  · nofun
  · exact absurd ‹_› (foldRes_no_panic envStep_no_panic)
  · nofun

/-- **`Data::new` never crashes**: whatever the text, the typed-element layer accepts or rejects -/
theorem dataNew_never_panics (text : Cte.Bdl.Str) (p : String) : dataNew text ≠ .panic p := by
  unfold dataNew
  split
  · nofun
  · exact dataOfBlocks_no_panic _ p

end

/-- **the modelled path never crashes**: every BDL text — intact, damaged, or arbitrary characters — is converted
    or rejected -/
theorem pipeline_never_crashes (text : Cte.Bdl.Str) : Cte.Pipeline.verdict text ≠ .crashed := by
  unfold Cte.Pipeline.verdict
  split
  · exact absurd ‹_› (dataNew_never_panics text _)
  · nofun
  · split <;> nofun

/-- whatever the modelled path converts is referentially closed (C02, end to end from the text) -/
theorem pipeline_converted_closed (text : Cte.Bdl.Str) (m : Cte.Conv.Mdl) (h : Cte.Pipeline.convertText text = some m) :
    Cte.Conv.closed m = true := by
  unfold Cte.Pipeline.convertText at h
  split at h
  · cases hc : Cte.Conv.convert (Cte.Pipeline.skelOf _) with
    | error e => rw [hc] at h; cases h
    | ok m' => rw [hc] at h; cases h; exact Cte.Props.C02.convert_closed _ _ hc
  · cases h

end Cte.Props.C19
