/-
C10 (sign and monotonicity) — consequences of the formula that a reader of the indicator relies on:
with physically meaningful inputs (0 ≤ F_sh,obst, 0 ≤ g, F_f ≤ 1, 0 ≤ A, 0 ≤ H_sol;jul) the gains of a
window, their total and q_sol;jul are non-negative; a window's gains grow with its obstruction factor,
so a window in full shade (F_sh,obst = 0) contributes nothing and an unobstructed one (F_sh,obst = 1)
contributes the most a factor in [0,1] allows.
-/
import Cte.Props.C10
import Mathlib.Tactic.Positivity
import Mathlib.Algebra.Order.Field.Basic
namespace Cte.C10

/-- the physically meaningful range of one window's inputs -/
def SaneTerm (t : QTerm) : Prop := 0 ≤ t.fsh ∧ 0 ≤ t.g ∧ t.fF ≤ 1 ∧ 0 ≤ t.area ∧ 0 ≤ t.rad

theorem gains_nonneg (t : QTerm) (h : SaneTerm t) : 0 ≤ t.gains := by
  obtain ⟨h1, h2, h3, h4, h5⟩ := h
  have := sub_nonneg.2 h3
  unfold QTerm.gains; positivity

theorem gains_mono_fsh (t : QTerm) (f : Rat) (h : SaneTerm t) (hf : t.fsh ≤ f) :
    t.gains ≤ ({ t with fsh := f } : QTerm).gains := by
  obtain ⟨_, h2, h3, h4, h5⟩ := h
  have := sub_nonneg.2 h3
  unfold QTerm.gains; gcongr

theorem gains_zero_of_fsh_zero (t : QTerm) (h : t.fsh = 0) : t.gains = 0 := by
  unfold QTerm.gains; rw [h]; ring

theorem gains_le_unobstructed (t : QTerm) (h : SaneTerm t) (h1 : t.fsh ≤ 1) :
    t.gains ≤ t.g * (1 - t.fF) * t.area * t.rad :=
  (gains_mono_fsh t 1 h h1).trans_eq (by simp only [QTerm.gains, one_mul])

theorem qsol_nonneg (wins : List WinP) (wc : List WinConsP) (rad : Orient → Option Rat) (aRef : Rat)
    (h : ∀ t ∈ (qTerms wins wc rad).filterMap id, SaneTerm t) :
    0 ≤ (qSolJul wins wc rad aRef).qSum ∧ 0 ≤ (qSolJul wins wc rad aRef).q ∧ 0 ≤ (qSolJul wins wc rad aRef).aWp := by
  have hq : 0 ≤ rsum (((qTerms wins wc rad).filterMap id).map QTerm.gains) :=
    rsum_nonneg (List.forall_mem_map.2 fun t ht => gains_nonneg t (h t ht))
  have ha : 0 ≤ rsum (((qTerms wins wc rad).filterMap id).map (·.area)) :=
    rsum_nonneg (List.forall_mem_map.2 fun t ht => (h t ht).2.2.2.1)
  refine ⟨hq, ?_, ha⟩
  show 0 ≤ (if aRef > 0 then rsum (((qTerms wins wc rad).filterMap id).map QTerm.gains) / aRef else 0)
  split
  · next hpos => exact div_nonneg hq (le_of_lt hpos)
  · exact le_refl 0

example : SaneTerm { orient := .s, area := 2, g := 1 / 2, fF := 1 / 5, fsh := 3 / 4, rad := 100 } := by
  unfold SaneTerm; norm_num
example : ({ orient := .s, area := 2, g := 1 / 2, fF := 1 / 5, fsh := 3 / 4, rad := 100 } : QTerm).gains = 60 := by
  decide +kernel

end Cte.C10
