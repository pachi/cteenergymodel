/-
C11 (classes) — "floor/wall/roof and compass classes depend only on the angle modulo 360 degrees".
The reduced angle is 360 × the fractional part of the number of turns, so it is periodic, lies in
[0, 360) and is the identity there; the classes are functions of it (`classes_factor`), whence the
congruence statements; the tilt class is the parser's threshold chain (`parserTilt`) on the reduced
angle, and `parserTilt_iffs` reads the chain as intervals once.
-/
import Cte.Props.C11
import Mathlib.Algebra.Order.Floor.Ring
import Mathlib.Data.Rat.Floor
namespace Cte.C11

theorem normalize_eq_fract (v : Rat) : normalize v 0 360 = Int.fract (v / 360) * 360 := by
  -- core's `Rat.floor` is the `⌊·⌋` of Mathlib's `FloorRing ℚ` by definition
  have fl : ∀ q : ℚ, q.floor = ⌊q⌋ := fun _ => rfl
  simp only [normalize, Int.fract, sub_zero, add_zero, fl]
  ring

theorem normalize_add_period (v : Rat) (k : Int) : normalize (v + 360 * k) 0 360 = normalize v 0 360 := by
  rw [normalize_eq_fract, normalize_eq_fract, show (v + 360 * k) / 360 = v / 360 + k by ring, Int.fract_add_intCast]

theorem normalize_range (v : Rat) : 0 ≤ normalize v 0 360 ∧ normalize v 0 360 < 360 := by
  rw [normalize_eq_fract]
  exact ⟨mul_nonneg (Int.fract_nonneg _) (by norm_num), mul_lt_of_lt_one_left (by norm_num) (Int.fract_lt_one _)⟩

theorem normalize_id {v : Rat} (h0 : 0 ≤ v) (h1 : v < 360) : normalize v 0 360 = v := by
  rw [normalize_eq_fract, Int.fract_eq_self.2 ⟨by positivity, by rw [div_lt_one (by norm_num)]; exact h1⟩]
  ring

theorem normalize_idem (v : Rat) : normalize (normalize v 0 360) 0 360 = normalize v 0 360 :=
  normalize_id (normalize_range v).1 (normalize_range v).2

/-- the classes factor through the reduction: nothing but the angle modulo 360° is looked at -/
theorem classes_factor (a b : Rat) (h : normalize a 0 360 = normalize b 0 360) :
    tiltClass a = tiltClass b ∧ orientClass a = orientClass b := by
  unfold tiltClass orientClass; rw [h]; exact ⟨rfl, rfl⟩

theorem tiltClass_mod_360 (a : Rat) (k : Int) : tiltClass (a + 360 * k) = tiltClass a :=
  (classes_factor _ _ (normalize_add_period a k)).1

theorem orientClass_mod_360 (a : Rat) (k : Int) : orientClass (a + 360 * k) = orientClass a :=
  (classes_factor _ _ (normalize_add_period a k)).2

theorem tiltClass_normalize (a : Rat) : tiltClass (normalize a 0 360) = tiltClass a :=
  (classes_factor _ _ (normalize_idem a)).1

theorem orientClass_normalize (a : Rat) : orientClass (normalize a 0 360) = orientClass a :=
  (classes_factor _ _ (normalize_idem a)).2

theorem tiltClass_congr (a b : Rat) (h : ∃ k : Int, a = b + 360 * k) : tiltClass a = tiltClass b := by
  obtain ⟨k, rfl⟩ := h; exact tiltClass_mod_360 b k

theorem orientClass_congr (a b : Rat) (h : ∃ k : Int, a = b + 360 * k) : orientClass a = orientClass b := by
  obtain ⟨k, rfl⟩ := h; exact orientClass_mod_360 b k

/-- `hulc::bdl::Wall::position` (no reduction of the angle) -/
def parserTilt (t : Rat) : TiltC :=
  if t ≤ 60 then .top else if t < 120 then .side else if t < 240 then .bottom else if t < 300 then .side else .top

theorem tiltClass_eq_parserTilt (t : Rat) : tiltClass t = parserTilt (normalize t 0 360) := rfl

theorem parserTilt_iffs (r : Rat) :
    (parserTilt r = .top ↔ r ≤ 60 ∨ 300 ≤ r) ∧ (parserTilt r = .bottom ↔ 120 ≤ r ∧ r < 240) ∧
    (parserTilt r = .side ↔ 60 < r ∧ r < 120 ∨ 240 ≤ r ∧ r < 300) := by
  unfold parserTilt
  split_ifs with h1 h2 h3 h4
  · exact ⟨iff_of_true rfl (Or.inl h1), iff_of_false nofun (by rintro ⟨h, -⟩; linarith),
      iff_of_false nofun (by rintro (⟨h, -⟩ | ⟨h, -⟩) <;> linarith)⟩
  · exact ⟨iff_of_false nofun (by rintro (h | h) <;> linarith), iff_of_false nofun (by rintro ⟨h, -⟩; linarith),
      iff_of_true rfl (Or.inl ⟨not_le.1 h1, h2⟩)⟩
  · exact ⟨iff_of_false nofun (by rintro (h | h) <;> linarith), iff_of_true rfl ⟨not_lt.1 h2, h3⟩,
      iff_of_false nofun (by rintro (⟨-, h⟩ | ⟨h, -⟩) <;> linarith)⟩
  · exact ⟨iff_of_false nofun (by rintro (h | h) <;> linarith), iff_of_false nofun (by rintro ⟨-, h⟩; linarith),
      iff_of_true rfl (Or.inr ⟨not_lt.1 h3, h4⟩)⟩
  · exact ⟨iff_of_true rfl (Or.inr (not_lt.1 h4)), iff_of_false nofun (by rintro ⟨-, h⟩; linarith),
      iff_of_false nofun (by rintro (⟨-, h⟩ | ⟨-, h⟩) <;> linarith)⟩

/-- roofs -/
theorem tilt_top_iff (t : Rat) :
    tiltClass t = .top ↔ (normalize t 0 360 ≤ 60 ∨ 300 ≤ normalize t 0 360) :=
  (parserTilt_iffs _).1

/-- floors -/
theorem tilt_bottom_iff (t : Rat) :
    tiltClass t = .bottom ↔ (120 ≤ normalize t 0 360 ∧ normalize t 0 360 < 240) :=
  (parserTilt_iffs _).2.1

/-- walls -/
theorem tilt_side_iff (t : Rat) :
    tiltClass t = .side ↔
      ((60 < normalize t 0 360 ∧ normalize t 0 360 < 120) ∨ (240 ≤ normalize t 0 360 ∧ normalize t 0 360 < 300)) :=
  (parserTilt_iffs _).2.2

/-- on [0, 360) the reduction does nothing; at 360 both give a roof -/
theorem parser_model_agree (t : Rat) (h0 : 0 ≤ t) (h1 : t ≤ 360) : parserTilt t = tiltClass t := by
  rcases lt_or_eq_of_le h1 with h | h
  · rw [tiltClass_eq_parserTilt, normalize_id h0 h]
  · subst h; decide +kernel

/-- the compass class never is "horizontal" when computed from an azimuth alone -/
theorem orientClass_ne_hz (a : Rat) : orientClass a ≠ .hz := by
  unfold orientClass
  repeat' apply iteInduction (motive := (· ≠ Orient.hz)) <;> intro _
  all_goals decide

example : tiltClass (-300) = tiltClass 60 ∧ tiltClass 60 = .top ∧ tiltClass (601 / 10) = .side := by decide +kernel
example : tiltClass 420 = .top ∧ tiltClass (-180) = .bottom ∧ tiltClass 630 = .side := by decide +kernel
example : normalize 420 0 360 = 60 ∧ normalize (-180) 0 360 = 180 := by decide +kernel
example : orientClass (-90) = orientClass 270 ∧ orientClass 270 = .w := by decide +kernel

end Cte.C11
