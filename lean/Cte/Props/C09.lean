/-
C09 — n50 follows the DB-HE air-permeability formula.
-/
import Cte.Model.Energy
import Cte.Lemmas.Sum
namespace Cte.C09

abbrev inScope (w : WallP) : Bool := w.inN50Scope
def scope (walls : List WallP) : List WallP := walls.filter WallP.inN50Scope
abbrev winsOf (wins : List WinP) (w : WallP) : List WinP := winsOfWall wins w
abbrev winC (wc : List WinConsP) (x : WinP) : Rat := winC100 wc x

/-- A_o: net opaque area with space multipliers -/
def aO (walls : List WallP) : Rat := rsum ((scope walls).map (fun w => w.areaNet * w.multiplier))
/-- Σ A_h and Σ C_h·A_h -/
def aH (walls : List WallP) (wins : List WinP) : Rat :=
  rsum ((scope walls).map (fun w => rsum ((winsOf wins w).map (·.area)) * w.multiplier))
def cAH (walls : List WallP) (wins : List WinP) (wc : List WinConsP) : Rat :=
  rsum ((scope walls).map (fun w => rsum ((winsOf wins w).map (fun x => x.area * winC wc x)) * w.multiplier))

/-- the DB-HE formula; 0.629 = (50/100)^0.67 takes the permeabilities, given at 100 Pa, to 50 Pa (n50.rs:92) -/
def n50Formula (cO aO cAH vol : Rat) : Rat := 629 / 1000 * (cO * aO + cAH) / vol

/-- the fields that do not depend on the branch taken -/
theorem n50_fields (walls : List WallP) (wins : List WinP) (wc : List WinConsP) (vol cO : Rat) (test : Option Rat) :
    let d := n50Data walls wins wc vol cO test
    d.wallsA = aO walls ∧ d.windowsA = aH walls wins ∧ d.windowsCA = cAH walls wins wc ∧
    d.vol = vol ∧ d.wallsCRef = cO ∧ d.wallsCARef = aO walls * cO ∧
    d.n50Ref = (if vol > 1 / 1000 then n50Formula cO (aO walls) (cAH walls wins wc) vol else 0) := by
  -- the code writes `A_o * C_o`, `n50Formula` writes `cO * aO`
  have e : ∀ a c : Rat, (if vol > 1 / 1000 then 629 / 1000 * (a * cO + c) / vol else 0) =
      if vol > 1 / 1000 then n50Formula cO a c vol else 0 := fun a c => by rw [n50Formula, mul_comm cO]
  intro d
  cases test
  · exact ⟨rfl, rfl, rfl, rfl, rfl, rfl, e _ _⟩
  · obtain h | h : d = _ ∨ d = _ := ite_eq_or_eq _ _ _ <;> rw [h] <;> exact ⟨rfl, rfl, rfl, rfl, rfl, rfl, e _ _⟩

theorem n50ref_eq_spec (walls : List WallP) (wins : List WinP) (wc : List WinConsP) (vol cO : Rat)
    (test : Option Rat) (hv : vol > 1 / 1000) :
    (n50Data walls wins wc vol cO test).n50Ref = n50Formula cO (aO walls) (cAH walls wins wc) vol :=
  (n50_fields walls wins wc vol cO test).2.2.2.2.2.2.trans (if_pos hv)

/-- V ≤ 0.001 m³: no division -/
theorem n50_zero_volume (walls : List WallP) (wins : List WinP) (wc : List WinConsP) (vol cO : Rat)
    (test : Option Rat) (hv : vol ≤ 1 / 1000) :
    (n50Data walls wins wc vol cO test).n50Ref = 0 :=
  (n50_fields walls wins wc vol cO test).2.2.2.2.2.2.trans (if_neg (not_lt.mpr hv))

/-- without a blower-door result: n50 is the reference value and the wall permeability is C_o -/
theorem n50_no_test (walls : List WallP) (wins : List WinP) (wc : List WinConsP) (vol cO : Rat) :
    let d := n50Data walls wins wc vol cO none
    d.n50 = d.n50Ref ∧ d.wallsC = cO ∧ d.wallsCA = d.wallsCARef := ⟨rfl, rfl, rfl⟩

/-- with a blower-door result the reported wall permeability is the one that satisfies the same equation -/
theorem n50_test_branch (walls : List WallP) (wins : List WinP) (wc : List WinConsP) (vol cO t : Rat)
    (ha : aO walls > 1 / 1000) (hv : vol ≠ 0) :
    let d := n50Data walls wins wc vol cO (some t)
    d.n50 = t ∧ n50Formula d.wallsC (aO walls) (cAH walls wins wc) vol = t ∧ d.wallsCA = aO walls * d.wallsC := by
  have hne : aO walls ≠ 0 := (lt_trans (by norm_num) ha).ne'
  -- `n50Data` tests the sum itself
  unfold aO scope at ha
  simp only [n50Data, ha, if_true]
  refine ⟨trivial, ?_, rfl⟩
  -- C·A_o = t·V/0.629 − Σ C_h·A_h by the choice of C
  show n50Formula ((t * vol / (629 / 1000) - cAH walls wins wc) / aO walls) (aO walls) (cAH walls wins wc) vol = t
  rw [n50Formula, div_mul_cancel₀ _ hne, sub_add_cancel, mul_div_cancel₀ _ (by norm_num), mul_div_cancel_right₀ _ hv]

/-- with a test value but no exposed opaque area the reference permeability is reported -/
theorem n50_test_no_walls (walls : List WallP) (wins : List WinP) (wc : List WinConsP) (vol cO t : Rat)
    (ha : ¬ aO walls > 1 / 1000) :
    let d := n50Data walls wins wc vol cO (some t)
    d.n50 = t ∧ d.wallsC = cO := by
  unfold aO scope at ha
  simp only [n50Data, ha, if_false]
  exact ⟨trivial, trivial⟩

/-- ground, adiabatic and interior elements, and elements outside the envelope, do not
contribute -/
theorem n50_scope (walls : List WallP) (wins : List WinP) (wc : List WinConsP) (vol cO : Rat) (test : Option Rat) :
    n50Data walls wins wc vol cO test = n50Data (walls.filter inScope) wins wc vol cO test := by
  unfold n50Data
  rw [List.filter_filter]; simp only [inScope, Bool.and_self]

/-- C_o in m³/h·m², the field as `globalProps` fills it -/
theorem co_by_age (F : Fns) (m : Model) :
    (m.globalProps F).cO100 = if m.info.isNewBuilding then 16 else 29 := rfl

/-- the fallback C_h = 100 of `winC100`, stated for the empty list of constructions only -/
theorem window_default_c (x : WinP) : winC [] x = 100 := rfl

def exWalls : List WallP :=
  [{ id := "a", bounds := .exterior, tilt := .side, orient := .s, areaGross := 12, areaNet := 10, multiplier := 2,
     isTenv := true, u := none, uOverride := none },
   { id := "g", bounds := .ground, tilt := .bottom, orient := .hz, areaGross := 20, areaNet := 20, multiplier := 1,
     isTenv := true, u := none, uOverride := none }]
def exWins : List WinP :=
  [{ id := "x", wall := "a", cons := "k", orient := .s, tilt := .side, area := 2, multiplier := 2, bounds := .exterior,
     isTenv := true, u := none, uOverride := none, fShobst := none, fShobstOverride := none }]
example : aO exWalls = 20 ∧ aO exWalls > 1 / 1000 := by decide +kernel
example : (n50Data exWalls exWins [] 100 16 none).n50Ref = 629 / 1000 * (16 * 20 + 400) / 100 := by decide +kernel

end Cte.C09
