/-
C03 / C02 — the values the conversion (`ConvValues`) gives to windows, spaces, thermal bridges, loads, constructions, glazing
and frames: copied, rounded to the centimetre, or combined as stated.
-/
import Cte.Model.ConvValues
namespace Cte.C03V
open Cte.Bdl Cte.BdlData Cte.ConvV

/-- **windows keep their size, offset and set-back within their wall** -/
theorem window_keeps_geometry (w : Window) :
    (convWindow w).x = w.x ∧ (convWindow w).y = w.y ∧ (convWindow w).width = w.width ∧
    (convWindow w).height = w.height ∧ (convWindow w).setback = w.setback := ⟨rfl, rfl, rfl, rfl, rfl⟩

theorem space_values (s : Space) :
    (convSpace s).height = s.height.map round2 ∧ (convSpace s).z = s.z ∧
    (convSpace s).multiplier = tmul s.multiplier s.floorMultiplier ∧ (convSpace s).insideTenv = s.insidete := ⟨rfl, rfl, rfl, rfl⟩

/-- every type other than `CONDITIONED` and `UNHABITED` is unconditioned -/
theorem kind_cases (t : Str) :
    (spaceKindOf t = .conditioned ↔ t = "CONDITIONED".toList) ∧
    (spaceKindOf t = .uninhabited ↔ t = "UNHABITED".toList) := by
  -- all that matters of the two names is that they differ
  have hne : "CONDITIONED".toList ≠ "UNHABITED".toList := by
    rw [String.toList_ofList, String.toList_ofList]; decide
  unfold spaceKindOf
  generalize "CONDITIONED".toList = c, "UNHABITED".toList = u at hne ⊢
  by_cases hc : t = c
  · subst hc; simp [hne]
  · by_cases hu : t = u
    · subst hu; simp [hc]
    · simp [hc, hu]

theorem illuminance_needs_veei (p v : TNum) (h : ∀ x, v = some x → x ≤ f32Eps) : illuminanceOf p v = none := by
  cases v with
  | none => rfl
  | some x => simp [illuminanceOf, Rat.not_lt.2 (h x rfl)]

/-- the record of computed lengths is no thermal bridge; every other block is, in order -/
theorem tbs_exact (tbs : List ThermalBridge) :
    (convTbs tbs).map (·.name) = (tbs.map (·.name)).filter (fun n => n != "LONGITUDES_CALCULADAS".toList) := by
  rw [convTbs, List.map_map, List.filter_map]
  rfl

/-- a bridge without a written length has length 0; the kind depends on the name only -/
theorem tb_values (tb : ThermalBridge) (h : (tb.name != "LONGITUDES_CALCULADAS".toList) = true) :
    convTbs [tb] = [{ name := tb.name, kind := tbKindOf tb.name, l := (tb.length.getD (some 0)).map round2, psi := tb.psi }] := by
  unfold convTbs
  rw [List.filter_cons, if_pos h]
  rfl

/-- internal gains per unit area: gain per person over area per person, to two decimals; 0 when the area per person is 0 -/
theorem per_area_values (g a : Rat) (ha : a ≠ 0) : perArea (some g) (some a) = some (round2 (g / a)) := by
  simp [perArea, ha]
theorem per_area_empty (g : TNum) : perArea g (some 0) = some 0 := by simp [perArea]

/-- a layer construction keeps the layers that have both a material and a thickness, thicknesses in written order -/
theorem wallcons_layers (c : WallCons) :
    (convWallCons c).thickness = c.thickness.take (min c.material.length c.thickness.length) ∧
    (convWallCons c).absorptance = c.absorptance := by
  refine ⟨?_, rfl⟩
  rw [convWallCons, List.zip_eq_zip_take_min, List.map_snd_zip (by simp)]

theorem wincons_values (c : WinCons) :
    (convWinCons c).fF = c.framefrac ∧ (convWinCons c).deltaU = c.deltau ∧ (convWinCons c).gGlshwi = c.gglshwi ∧
    (convWinCons c).c100 = c.infcoeff := ⟨rfl, rfl, rfl, rfl⟩
theorem glass_frame_values (g : Glass) (f : Frame) :
    (convGlass g).uValue = g.conductivity ∧ (convGlass g).gGln = g.gGln ∧
    (convFrame f).uValue = f.conductivity ∧ (convFrame f).absorptivity = f.absorptivity := ⟨rfl, rfl, rfl, rfl⟩

example : tbKindOf "FRENTE_FORJADO".toList = .intermediatefloor ∧ tbKindOf "HUECO_JAMBA".toList = .window ∧
    tbKindOf "OTRO".toList = .generic := by
  repeat rw [String.toList_ofList] -- see `exampleText_blocks` in `Props/C18.lean`
  decide +kernel

example : illuminanceOf (some (44 / 10)) (some 7) = some (some (6286 / 100)) := by decide +kernel

end Cte.C03V
