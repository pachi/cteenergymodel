/-
  C18 — the typed elements carry the written values, with the documented defaults when an attribute is absent.
  Statements about `BdlData.wallOf`, `spaceOf`, `windowOf`, `materialOf`, `glassOf`, `winConsOf`, `constructionOf`
  (the models of the `TryFrom<BdlBlock>` implementations), in terms of what `getNum` / `getStr` find in the block.
-/
import Cte.Model.BdlData

namespace Cte.Props.C18Typed
open Cte.Bdl Cte.BdlData

/- The accepting branch of each cascade ends in `refine ⟨_, reqNum_ok.mp ?_, rfl, …⟩ <;> with_reducible assumption`: the `rfl`s fix the
   witnesses, so each goal left is a concrete `reqX b.attrs "KEY" = .ok v`, the equation `split` put in the context.  `with_reducible`
   keeps `isDefEq` from unfolding the `"…".toList` literals (as does `simp only` in `wall_tilt_default`). -/
theorem reqNum_ok {a : Attrs} {k : String} {v : TNum} : reqNum a k = .ok v ↔ getNum a k = some v := by
  unfold reqNum
  split <;> simp [*]

theorem reqStr_ok {a : Attrs} {k : String} {v : Str} : reqStr a k = .ok v ↔ getStr a k = some v := by
  unfold reqStr
  split <;> simp [*]

/-- past a check that rejects, without a `split at h` that rewrites the whole rest of the cascade -/
theorem ok_of_guard {ε α : Type} {c : Prop} [Decidable c] {e : ε} {x : Except ε α} {v : α}
    (h : (if c then .error e else x) = .ok v) : x = .ok v := by
  split at h
  · cases h
  · exact h

theorem wallOf_ok (b : Block) (w : Wall) (h : wallOf b = .ok w) :
    ∃ space cons location bounds, b.parent = some space ∧ getStr b.attrs "CONSTRUCTION" = some cons ∧
      wallLocation b.attrs = .ok location ∧ wallBounds b = .ok bounds ∧
      w = { name := b.name, space := space, cons := cons, location := location, x := numOr b.attrs "X" 0, y := numOr b.attrs "Y" 0,
            z := numOr b.attrs "Z" 0, angle := some (if location == some "BOTTOM".toList then some 180 else numOr b.attrs "AZIMUTH" 0),
            tilt := wallTilt b location, hasPolygon := (getStr b.attrs "POLYGON").isSome, bounds := bounds,
            nextto := if bounds == "INTERIOR" then getStr b.attrs "NEXT-TO" else none } := by
  unfold wallOf at h
  dsimp only at h
  split at h
  · cases h
  · cases h
  · cases h
  · cases h
  · cases h
    refine ⟨_, _, _, _, ?_, reqStr_ok.mp ?_, ?_, ?_, rfl⟩ <;> with_reducible assumption

theorem wall_tilt_written (b : Block) (w : Wall) (t : TNum) (h : wallOf b = .ok w) (ht : getNum b.attrs "TILT" = some t) :
    w.tilt = t := by
  obtain ⟨_, _, _, _, _, _, _, _, rfl⟩ := wallOf_ok b w h
  simp only [wallTilt, ht]

/-- without TILT: roofs and TOP elements face up (0), BOTTOM elements face down (180), the rest are vertical (90) -/
theorem wall_tilt_default (b : Block) (w : Wall) (h : wallOf b = .ok w) (ht : getNum b.attrs "TILT" = none) :
    w.tilt = (if b.btype == "ROOF".toList || w.location == some "TOP".toList then some 0
              else if w.location == some "BOTTOM".toList then some 180 else some 90) := by
  obtain ⟨_, _, _, _, _, _, _, _, rfl⟩ := wallOf_ok b w h
  simp only [wallTilt, ht]

/-- the wall belongs to the space it is written under, with the written construction -/
theorem wall_space_and_cons (b : Block) (w : Wall) (h : wallOf b = .ok w) :
    b.parent = some w.space ∧ getStr b.attrs "CONSTRUCTION" = some w.cons ∧ w.name = b.name := by
  obtain ⟨_, _, _, _, hp, hc, _, _, rfl⟩ := wallOf_ok b w h
  exact ⟨hp, hc, rfl⟩

/-- BOTTOM elements get the azimuth 180 whatever is written; the others keep the written AZIMUTH (0 when absent) -/
theorem wall_azimuth (b : Block) (w : Wall) (h : wallOf b = .ok w) :
    w.angle = some (if w.location == some "BOTTOM".toList then some 180 else numOr b.attrs "AZIMUTH" 0) := by
  obtain ⟨_, _, _, _, _, _, _, _, rfl⟩ := wallOf_ok b w h
  rfl

/-- only a wall whose boundary is `INTERIOR` has a neighbour, the written NEXT-TO -/
theorem wall_nextto (b : Block) (w : Wall) (h : wallOf b = .ok w) :
    w.nextto = (if w.bounds == "INTERIOR" then getStr b.attrs "NEXT-TO" else none) := by
  obtain ⟨_, _, _, _, _, _, _, _, rfl⟩ := wallOf_ok b w h
  rfl

/-- the location is TOP, BOTTOM or a vertex name written after `SPACE-`; anything else is rejected -/
theorem wall_location (a : Attrs) (l : Option Str) (h : wallLocation a = .ok l) :
    (getStr a "LOCATION" = none ∧ l = none) ∨
    (∃ loc, getStr a "LOCATION" = some loc ∧ ((loc = "TOP".toList ∨ loc = "BOTTOM".toList) ∧ l = some loc ∨
       startsWith "SPACE-".toList loc = true ∧ l = some (loc.drop 6))) := by
  unfold wallLocation at h
  split at h
  next hn => cases h; exact .inl ⟨hn, rfl⟩
  next loc hl =>
    refine .inr ⟨loc, hl, ?_⟩
    split at h
    next htb => cases h; exact .inl ⟨by simpa only [Bool.or_eq_true, beq_iff_eq] using htb, rfl⟩
    split at h
    next hs => cases h; exact .inr ⟨hs, rfl⟩
    cases h

/-- the glazing's solar factor is the written shading coefficient times 0.86 -/
theorem glass_values (b : Block) (g : Glass) (h : glassOf b = .ok g) :
    ∃ sc, getNum b.attrs "SHADING-COEF" = some sc ∧ g.gGln = tmul sc (some (86 / 100)) ∧
      getNum b.attrs "GLASS-CONDUCTANCE" = some g.conductivity ∧ g.group = (getStr b.attrs "GROUP").getD "Vidrios".toList := by
  unfold glassOf at h
  dsimp only at h
  split at h
  · cases h
  replace h := ok_of_guard h
  split at h
  · cases h
    refine ⟨_, reqNum_ok.mp ?_, rfl, reqNum_ok.mp ?_, rfl⟩ <;> with_reducible assumption
  all_goals cases h

/-- the frame fraction is the written percentage over 100; ΔU defaults to 0; the July factor is optional -/
theorem wincons_values (b : Block) (c : WinCons) (h : winConsOf b = .ok c) :
    ∃ p, getNum b.attrs "PORCENTAGE" = some p ∧ c.framefrac = tmul p (some (1 / 100)) ∧
      getStr b.attrs "GLASS-TYPE" = some c.glass ∧ getStr b.attrs "NAME-FRAME" = some c.frame ∧
      getNum b.attrs "INF-COEF" = some c.infcoeff ∧ c.deltau = numOr b.attrs "porcentajeIncrementoU" 0 ∧
      c.gglshwi = getNum b.attrs "TransmisividadJulio" := by
  unfold winConsOf at h
  dsimp only at h
  split at h
  · cases h
    refine ⟨_, reqNum_ok.mp ?_, rfl, reqStr_ok.mp ?_, reqStr_ok.mp ?_, reqNum_ok.mp ?_, rfl, rfl⟩ <;> with_reducible assumption
  all_goals cases h

/-- a material by properties: conductivity and density as written, specific heat 800 when absent -/
theorem material_properties (b : Block) (m : Material) (h : materialOf b = .ok m)
    (ht : getStr b.attrs "TYPE" = some "PROPERTIES".toList) :
    ∃ c d, getNum b.attrs "CONDUCTIVITY" = some c ∧ getNum b.attrs "DENSITY" = some d ∧
      m.properties = some (getNum b.attrs "THICKNESS", c, d, numOr b.attrs "SPECIFIC-HEAT" 800, getNum b.attrs "VAPOUR-DIFFUSIVITY-FACTOR") ∧
      m.resistance = none ∧ m.group = (getStr b.attrs "GROUP").getD "Materiales".toList := by
  unfold materialOf at h
  simp only [reqStr_ok.mpr ht, beq_self_eq_true, if_true] at h
  split at h
  · cases h
    refine ⟨_, _, reqNum_ok.mp ?_, reqNum_ok.mp ?_, rfl, rfl, rfl⟩ <;> with_reducible assumption
  all_goals cases h

/-- a construction's absorptance defaults to 0.6 -/
theorem construction_values (b : Block) (c : Construction) (h : constructionOf b = .ok c) :
    getStr b.attrs "LAYERS" = some c.layers ∧ c.absorptance = numOr b.attrs "ABSORPTANCE" (6 / 10) ∧ b.parent = some c.parent := by
  unfold constructionOf at h
  dsimp only at h
  split at h
  · cases h
  replace h := ok_of_guard h
  split at h
  · cases h
  split at h
  · cases h
  cases h
  refine ⟨reqStr_ok.mp ?_, rfl, ?_⟩ <;> with_reducible assumption

/-- position, size and set-back are the written ones; there is an overhang exactly when its depth × width is positive
    (the fins, built by the same test, are not stated) -/
theorem window_values (b : Block) (w : Window) (h : windowOf b = .ok w) :
    getNum b.attrs "X" = some w.x ∧ getNum b.attrs "Y" = some w.y ∧ getNum b.attrs "WIDTH" = some w.width ∧
    getNum b.attrs "HEIGHT" = some w.height ∧ getNum b.attrs "SETBACK" = some w.setback ∧ getStr b.attrs "GAP" = some w.cons ∧
    b.parent = some w.wall ∧
    (w.overhang.isSome ↔ prodPos b.attrs "OVERHANG-D" "OVERHANG-W" = true) := by
  unfold windowOf at h
  dsimp only at h
  split at h
  · cases h
  split at h
  · split at h
    · cases h
    cases h
    refine ⟨reqNum_ok.mp ?_, reqNum_ok.mp ?_, reqNum_ok.mp ?_, reqNum_ok.mp ?_, reqNum_ok.mp ?_, reqStr_ok.mp ?_, ?_,
      Option.isSome_ite⟩ <;> with_reducible assumption
  all_goals cases h

theorem spaceOf_ok (b : Block) (s : Space) (h : spaceOf b = .ok s) :
    b.parent = some s.floor ∧
    s.insidete = (match getStr b.attrs "perteneceALaEnvolventeTermica" with
      | some v => v == "SI".toList
      | none => s.stype == "CONDITIONED".toList) ∧
    s.spaceconds = (getStr b.attrs "SPACE-CONDITIONS").getD s.spacetype ∧
    s.systemconds = (getStr b.attrs "SYSTEM-CONDITIONS").getD s.spacetype := by
  unfold spaceOf at h
  dsimp only at h
  split at h
  · cases h
  replace h := ok_of_guard h
  split at h
  · cases h
  split at h
  · cases h
  split at h
  · cases h
    exact ⟨by with_reducible assumption, rfl, rfl, rfl⟩
  all_goals cases h

/-- a space without the envelope flag is inside the thermal envelope exactly when it is conditioned -/
theorem space_envelope_default (b : Block) (s : Space) (h : spaceOf b = .ok s)
    (hn : getStr b.attrs "perteneceALaEnvolventeTermica" = none) :
    s.insidete = (s.stype == "CONDITIONED".toList) := by
  rw [(spaceOf_ok b s h).2.1, hn]

/-- the conditions names default to the space type -/
theorem space_conditions_default (b : Block) (s : Space) (h : spaceOf b = .ok s) :
    s.spaceconds = (getStr b.attrs "SPACE-CONDITIONS").getD s.spacetype ∧
    s.systemconds = (getStr b.attrs "SYSTEM-CONDITIONS").getD s.spacetype ∧ b.parent = some s.floor :=
  have ⟨hf, _, hc, hs⟩ := spaceOf_ok b s h
  ⟨hc, hs, hf⟩

/-- **vertices come back in their written order**: when `V(start)`, `V(start+1)`, … hold valid points and the next name is absent,
    the reader returns exactly those, in numeric order of the names — however the attribute map is ordered (as text, `V10`
    sorts before `V2`) -/
theorem vertices_in_order (a : Attrs) (dim : Nat) (vs : List Str) (ps : List (List TNum)) (start fuel : Nat)
    (hlen : vs.length = ps.length) (hfuel : vs.length < fuel)
    (hv : ∀ k (hk : k < vs.length), getStr a ("V" ++ toString (start + k)) = some vs[k] ∧
      pointFromStr dim vs[k] = some (ps[k]'(hlen ▸ hk)))
    (hend : getStr a ("V" ++ toString (start + vs.length)) = none) :
    vertices a dim fuel start = .ok ps := by
  induction vs generalizing ps start fuel with
  | nil =>
    obtain rfl : ps = [] := List.eq_nil_of_length_eq_zero hlen.symm
    obtain ⟨f, rfl⟩ := Nat.exists_eq_add_one.mpr hfuel
    simp only [vertices, show getStr a ("V" ++ toString start) = none from hend]
  | cons v t ih =>
    obtain ⟨p, pt, rfl⟩ := List.exists_cons_of_length_eq_add_one hlen.symm
    obtain ⟨f, rfl⟩ := Nat.exists_eq_add_one.mpr (Nat.zero_lt_of_lt hfuel)
    have h0 : getStr a ("V" ++ toString start) = some v ∧ pointFromStr dim v = some p := hv 0 (Nat.zero_lt_succ _)
    -- the rest starts at `start + 1`: its `k`-th name is this list's `k + 1`-st
    have hrest := ih pt (start + 1) f (Nat.succ.inj hlen) (Nat.lt_of_succ_lt_succ hfuel)
      (fun k hk => by rw [Nat.add_right_comm, Nat.add_assoc]; exact hv (k + 1) (Nat.succ_lt_succ hk))
      (by rw [Nat.add_right_comm, Nat.add_assoc]; exact hend)
    simp only [vertices, h0.1, h0.2, hrest]

/-- a shade given by vertices carries them in that order -/
theorem shading_vertices_written (b : Block) (t r : TNum) (vs : List Str) (ps : List (List TNum))
    (ht : reqNum b.attrs "TRAN" = .ok t) (hr : reqNum b.attrs "REFL" = .ok r) (hx : getNum b.attrs "X" = none)
    (hlen : vs.length = ps.length) (hfuel : vs.length ≤ b.attrs.length)
    (hv : ∀ k (hk : k < vs.length), getStr b.attrs ("V" ++ toString (1 + k)) = some vs[k] ∧
      pointFromStr 3 vs[k] = some (ps[k]'(hlen ▸ hk)))
    (hend : getStr b.attrs ("V" ++ toString (1 + vs.length)) = none) :
    shadingOf b = .ok { name := b.name, tran := t, refl := r, rect := none, verts := some ps } := by
  unfold shadingOf
  simp only [ht, hr, hx, Option.isSome_none, Bool.false_eq_true, if_false]
  rw [vertices_in_order b.attrs 3 vs ps 1 (b.attrs.length + 1) hlen (Nat.lt_succ_of_le hfuel) hv hend]

end Cte.Props.C18Typed
