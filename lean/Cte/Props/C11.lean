/-
C11 — Reference area, volumes, compactness and envelope membership are consistent.
-/
import Cte.Lemmas.Energy
import Cte.Lemmas.Sum
import Cte.Lemmas.Round
import Mathlib.Tactic.FieldSimp
namespace Cte.C11

def spaceInside (m : Model) (id : Id) : Bool := ((m.getSpace id).map (·.insideTenv)).getD false

/-- an element belongs to the envelope exactly when it bounds an inside space towards
outside air, ground or an adiabatic boundary, or separates an inside space from an outside one -/
theorem tenv_rule (w : Wall) (m : Model) :
    w.isTenv m = true ↔
      (w.bounds ≠ .interior ∧ spaceInside m w.space = true) ∨
      (w.bounds = .interior ∧ spaceInside m w.space ≠ ((w.nextTo.map (spaceInside m)).getD false)) := by
  unfold Wall.isTenv spaceInside
  cases w.bounds <;> cases w.nextTo <;> simp [Option.bind]

def habitableInside (s : SpaceP) : Bool := s.insideTenv && s.kind != .uninhabited

/-- the sums and the quotient the definitions write, rounded where the code rounds; `hb`: no rounding bias
(`Model/Fns.lean`: ±1 only in the correspondence check) -/
theorem global_defs (F : Fns) (hb : F.bias = 0) (m : Model) :
    let g := m.globalProps F
    let sp := m.spaceProps F
    g.aRef = round2 (rsum (sp.map (fun s => if habitableInside s then s.area * s.multiplier else 0))) ∧
    g.volEnvGross = round2 (rsum (sp.map (fun s => if s.insideTenv then s.area * s.height * s.multiplier else 0))) ∧
    g.volEnvNet = round2 (rsum (sp.map (fun s => if s.insideTenv then s.area * s.heightNet * s.multiplier else 0))) ∧
    g.compactness = (if g.exposedArea = 0 then 0 else g.volEnvGross / g.exposedArea) ∧
    g.exposedArea = rsum (((m.wallProps F).filter (fun w => w.isTenv && (w.bounds = .exterior || w.bounds = .ground))).map
      (fun w => w.areaGross * w.multiplier)) := by
  simp only [Model.globalProps, Fns.r2_unbiased F hb, habitableInside, and_true]
  rfl

/-- with unique space ids the rate reported with the indicators
(`props.rs`) is the rate used in the U-value calculation (`energy/mod.rs`) -/
theorem ventilation_consistent (F : Fns) (m : Model) (h : (m.spaces.map (·.id)).Nodup) :
    (m.globalProps F).ventilation = m.globalVentilationU F := by
  unfold Model.globalProps Model.globalVentilationU Model.volEnvInhNetU Model.spaceProps
  simp only [lastById_of_nodup h, rsum_filter, List.map_map]
  rfl

def P2.scale (s : Rat) (p : P2) : P2 := { x := s * p.x, y := s * p.y }

theorem shoelace_go_scale (s : Rat) (v0 : P2) (l : List P2) :
    shoelace2.go (P2.scale s v0) (l.map (P2.scale s)) = s * s * shoelace2.go v0 l := by
  fun_induction shoelace2.go v0 l with
  | case1 => exact (mul_zero _).symm
  | case2 v => simp only [List.map, shoelace2.go, P2.scale]; ring
  | case3 v w t ih =>
    simp only [List.map_cons, shoelace2.go, P2.scale] at ih ⊢
    rw [ih]; ring

theorem shoelace_scale (s : Rat) (p : List P2) :
    shoelace2 (p.map (P2.scale s)) = s * s * shoelace2 p := by
  cases p with
  | nil => exact (mul_zero _).symm
  | cons v0 t => exact shoelace_go_scale s v0 (v0 :: t)

theorem polyArea_scale (s : Rat) (hs : 0 ≤ s) (p : List P2) :
    polyArea (p.map (P2.scale s)) = s * s * polyArea p := by
  unfold polyArea
  rw [List.length_map, shoelace_scale, mul_div_assoc, rabs_eq_abs, rabs_eq_abs, abs_mul,
    abs_of_nonneg (mul_nonneg hs hs), mul_ite, mul_zero]

/-- the identity behind the scaling law of volumes, over free variables: no definition of the model occurs -/
theorem volume_scale (s a h mult : Rat) : (s * s * a) * (s * h) * mult = s * s * s * (a * h * mult) := by ring

/-- likewise for compactness (V ~ s³, A ~ s²) -/
theorem compactness_scale (s v a : Rat) (hs : s ≠ 0) (ha : a ≠ 0) :
    (s * s * s * v) / (s * s * a) = s * (v / a) := by
  field_simp

example : polyArea ([⟨0, 0⟩, ⟨2, 0⟩, ⟨2, 3⟩, ⟨0, 3⟩].map (P2.scale 2)) = 24 := by decide +kernel

end Cte.C11
