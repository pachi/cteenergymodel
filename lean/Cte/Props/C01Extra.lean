/-
C01 / `--use-extra`: what the library conversion adds from HULC's result files (`fix_ecdata_from_extra`).
-/
import Cte.Model.Extra
import Cte.Lemmas.OptionMapM
import Cte.Lemmas.Num
namespace Cte.C01X
open Cte.Extra

theorem not_significant_self (u : Rat) : significantU u u = false := by
  simp [significantU, rabs_eq_abs]

theorem no_files_no_overrides (ws : List WallIn) (wins : List WinIn) :
    wallOverrides ⟨none, none⟩ ws = [] ∧ winOverrides ⟨none, none⟩ wins = [] := ⟨rfl, rfl⟩

theorem extraNames_of_uFinal {f : Files} {ws : List WallIn} {k : WallIn → Rat} (h : ∀ w ∈ ws, uFinal f w = some (k w)) :
    extraNames f ws = some ((ws.filter fun w => significantU (k w) w.computedU).map (·.name)) := by
  rw [extraNames, mapM_eq_some_map (k := fun w => (w, k w)) fun w hw => by rw [h w hw]; rfl]
  simp [List.filter_map, Function.comp_def]

/-- without result files `uFinal` is 0 for every wall, so `extra` holds exactly the walls whose computed U is more
than 0.001 away from 0 -/
theorem no_files_extra (ws : List WallIn) :
    extraNames ⟨none, none⟩ ws = some ((ws.filter (fun w => significantU 0 w.computedU)).map (·.name)) :=
  extraNames_of_uFinal fun _ _ => rfl

/-- every wall override carries a value that is in a file for that wall and that differs significantly from the computed U -/
theorem wall_override_sound (f : Files) (ws : List WallIn) (id : String) (u : Rat) (h : (id, u) ∈ wallOverrides f ws) :
    ∃ w ∈ ws, w.id = id ∧ significantU u w.computedU = true ∧
      ((∃ kw kx, f.kyg = some (kw, kx) ∧ lookup w.name kw = some u) ∨ (∃ els, f.tbl = some els ∧ w.interior = true ∧ lookup w.name els = some u)) := by
  unfold wallOverrides at h
  rcases List.mem_append.mp h with h | h
  · rcases hk : f.kyg with _ | ⟨kw, kx⟩ <;> simp only [hk, List.mem_filterMap, List.not_mem_nil] at h
    obtain ⟨w, hw, hv⟩ := h
    cases hl : lookup w.name kw <;> simp [hl] at hv
    obtain ⟨hs, rfl, rfl⟩ := hv
    exact ⟨w, hw, rfl, hs, .inl ⟨kw, kx, rfl, hl⟩⟩
  · rcases ht : f.tbl with _ | els <;> simp only [ht, List.mem_filterMap, List.not_mem_nil] at h
    obtain ⟨w, hw, hv⟩ := h
    cases hl : lookup w.name els <;> simp [hl] at hv
    obtain ⟨hi, hs, rfl, rfl⟩ := hv
    exact ⟨w, hw, rfl, hs, .inr ⟨els, rfl, hi, hl⟩⟩

/-- result files that agree with every computed U leave nothing to override and an empty `extra` list
(the situation of C01's "agreeing result files" runs).  The KyG pass overrides any wall it lists, so `hk2` speaks of
all walls; for `extra` the KyG value counts only where the .tbl value does not replace it, hence `hk` for the others. -/
theorem agreeing_files (kw kx : List (String × Rat)) (els : List (String × Rat)) (ws : List WallIn)
    (hk : ∀ w ∈ ws, w.interior = false → lookup w.name kw = some w.computedU)
    (hk2 : ∀ w ∈ ws, ∀ u, lookup w.name kw = some u → u = w.computedU)
    (ht : ∀ w ∈ ws, w.interior = true → lookup w.name els = some w.computedU) :
    wallOverrides ⟨some (kw, kx), some els⟩ ws = [] ∧ extraNames ⟨some (kw, kx), some els⟩ ws = some [] := by
  constructor
  · refine List.eq_nil_iff_forall_not_mem.2 fun ⟨id, u⟩ h => ?_
    obtain ⟨w, hw, -, hs, ⟨_, _, hf, hl⟩ | ⟨_, hf, hi, hl⟩⟩ := wall_override_sound _ _ _ _ h <;> cases hf
    · rw [hk2 w hw u hl, not_significant_self] at hs; cases hs
    · rw [ht w hw hi] at hl; cases hl; rw [not_significant_self] at hs; cases hs
  · have hu : ∀ w ∈ ws, uFinal ⟨some (kw, kx), some els⟩ w = some w.computedU := by
      intro w hw
      cases hi : w.interior with
      | true => simp [uFinal, hi, ht w hw hi]
      | false => simp [uFinal, uAfterKyg, hi, hk w hw hi]
    simp [extraNames_of_uFinal hu, not_significant_self]

/-- the converse of `wall_override_sound` -/
theorem wall_override_complete (f : Files) (ws : List WallIn) (w : WallIn) (hw : w ∈ ws) (u : Rat)
    (hs : significantU u w.computedU = true)
    (h : (∃ kw kx, f.kyg = some (kw, kx) ∧ lookup w.name kw = some u) ∨ (∃ els, f.tbl = some els ∧ w.interior = true ∧ lookup w.name els = some u)) :
    (w.id, u) ∈ wallOverrides f ws := by
  unfold wallOverrides
  rcases h with ⟨kw, kx, hk, hl⟩ | ⟨els, ht, hi, hl⟩
  · apply List.mem_append_left
    simp only [hk, List.mem_filterMap]
    exact ⟨w, hw, by simp [hl, hs]⟩
  · apply List.mem_append_right
    simp only [ht, List.mem_filterMap]
    exact ⟨w, hw, by simp [hi, hl, hs]⟩

/-- **the `extra` list is exactly the walls whose U in the files differs from the computed one** (by more than 0.001), where the U in
the files is the .tbl value for partitions when a .tbl is given, else the KyG value, else 0 -/
theorem extra_exact (f : Files) (ws : List WallIn) (l : List String) (h : extraNames f ws = some l) (n : String) :
    n ∈ l ↔ ∃ w ∈ ws, w.name = n ∧ ∃ u, uFinal f w = some u ∧ significantU u w.computedU = true := by
  obtain ⟨ps, hm, rfl⟩ := Option.map_eq_some_iff.1 h
  have key := mem_iff_of_mapM_eq_some hm
  simp only [List.mem_map, List.mem_filter, key, Option.map_eq_some_iff]
  constructor
  · rintro ⟨_, ⟨⟨w, hw, u, hu, rfl⟩, hs⟩, rfl⟩
    exact ⟨w, hw, rfl, u, hu, hs⟩
  · rintro ⟨w, hw, rfl, u, hu, hs⟩
    exact ⟨(w, u), ⟨⟨w, hw, u, hu, rfl⟩, hs⟩, rfl⟩

/-- a partition that the .tbl does not list makes the conversion fail (with an error, not a crash: F-C19l) -/
theorem tbl_missing_partition_rejected (f : Files) (els : List (String × Rat)) (ws : List WallIn) (w : WallIn)
    (ht : f.tbl = some els) (hw : w ∈ ws) (hi : w.interior = true) (hl : lookup w.name els = none) :
    extraNames f ws = none := by
  unfold extraNames
  rw [mapM_eq_none hw (by simp [uFinal, ht, hi, hl])]
  rfl

example : extraNames ⟨some ([("m1", 1 / 2), ("m2", 3 / 10)], []), none⟩
    [⟨"m1", "a", false, 1 / 2⟩, ⟨"m2", "b", false, 35 / 100⟩, ⟨"m3", "c", true, 0⟩] = some ["m2"] := by decide +kernel

end Cte.C01X
