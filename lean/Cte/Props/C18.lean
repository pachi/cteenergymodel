/-
  C18 — HULC file parsers recover every value that is written in the file (block layer of the BDL parser).

  For every document — a list of written blocks (quoted name, any padding around `=`, a type of the table, one or more
  attributes with bare, quoted or multi-line parenthesised values) — and every file text whose physical lines (LF or
  CRLF ended, padded, interleaved with comment and blank lines) reduce to the document's lines, `build_blocks` returns
  exactly the written blocks, each with the nearest preceding block of the enclosing class as parent.

  Vocabulary: `PLine`, `render`, `BodyOK` in Lemmas/BdlLines; `docLines` in BdlSplit; `WVal`, `WAttr` in BdlAttrs;
  `WBlock`, `.WF`, `.expected` in BdlBlock; `assignParents`, `parentFrom` in BdlParents.
-/
import Cte.Lemmas.BdlBlock
import Cte.Lemmas.BdlParents
import Cte.Lemmas.BdlNum   -- C18's number-typing theorems; nothing below uses them

namespace Cte.Props.C18
open Cte.Bdl

/-- the quote of the name begins none of the skipped commands -/
theorem skipped_quote {r : Str} : skipped ('"' :: r) = false := by
  simp only [skipped, Cte.Gen.skippedBlockPrefixes, List.any_cons, List.any_nil]
  repeat rw [String.toList_ofList]
  rfl

theorem blocksFold_texts (c : Cursor) (doc : List WBlock) (hwf : ∀ b ∈ doc, b.WF) :
    blocksFold c (doc.map (fun b => blockText b.lines)) = .ok (assignParents c (doc.map WBlock.expected)) := by
  induction doc generalizing c with
  | nil => rfl
  | cons b t ih =>
    have hs : skipped (blockText b.lines) = false := by rw [b.text_eq (hwf b (by simp))]; exact skipped_quote
    simp only [List.map_cons, blocksFold, hs, Bool.false_eq_true, if_false, parseBlock_text (hwf b (by simp)),
      ih _ fun x hx => hwf x (by simp [hx])]
    rfl

theorem sanitize_no_marker {input : Str}
    (h : ∀ m ∈ Cte.Gen.preambleMarkers, splitAtSub m.toList (cleanLines input) = none) :
    sanitize input = cleanLines input := by
  unfold sanitize
  simp only [List.findSome?_eq_none_iff.mpr h]

/-- `no_marker`: a legacy preamble marker (`"DATOS GENERALES" = GENERAL-DATA`, `"Defecto" = DESCRIPTION`) would make
    `sanitize_lider_data` wrap what precedes it into a PARTELIDER block -/
structure DocWF (doc : List WBlock) : Prop where
  blocks : ∀ b ∈ doc, b.WF
  no_dots : ∀ b ∈ doc, ∀ l ∈ b.lines, noDD l = true
  no_marker : ∀ m ∈ Cte.Gen.preambleMarkers,
    splitAtSub m.toList (joinWith ['\n'] (docLines (doc.map WBlock.lines))) = none

/-- **parse ∘ print = id** for the block layer -/
theorem buildBlocks_print (doc : List WBlock) (phys : List PLine)
    (hbody : ∀ l ∈ phys, BodyOK l.body)
    (hlog : ((phys.map (·.body)).map trim).filter keepLine = docLines (doc.map WBlock.lines))
    (hwf : DocWF doc) :
    buildBlocks (render phys) = .ok (assignParents {} (doc.map WBlock.expected)) := by
  have hclean : cleanLines (render phys) = joinWith ['\n'] (docLines (doc.map WBlock.lines)) := by
    rw [cleanLines_render hbody, hlog]
  have hsplit := blockTextsOf_doc (List.forall_mem_map.mpr hwf.no_dots)
    (List.forall_mem_map.mpr fun w hw => w.text_clean (hwf.blocks w hw))
  rw [buildBlocks_eq, sanitize_no_marker (hclean ▸ hwf.no_marker), hclean, hsplit, List.map_map]
  exact blocksFold_texts {} doc hwf.blocks

/-- with distinct keys every written attribute value is recovered, in order -/
theorem attrs_recovered (b : WBlock) (hn : (b.attrs.map (·.key)).Nodup) :
    b.expected.attrs = b.attrs.map (fun a => (a.key, a.val.stored)) := by
  simpa [WBlock.expected] using storedAttrs_nodup b.attrs [] (by simpa using hn)

/-- the parent is the nearest preceding block of the enclosing class: the last FLOOR for a SPACE (`Default` if none),
    the last SPACE for a wall, the last wall for a WINDOW / CONSTRUCTION / DOOR -/
theorem parent_recovered (doc : List WBlock) (i : Nat) (h : i < doc.length) :
    ((assignParents {} (doc.map WBlock.expected))[i]'(by rw [assignParents_length]; simpa using h)) =
      { (doc[i]).expected with
          parent := parentFrom {} ((doc.take i).map WBlock.expected) (doc[i]).expected } := by
  have := assignParents_getElem {} (doc.map WBlock.expected) i (by simpa using h)
  simpa [List.map_take] using this

/-! `hlog` of `buildBlocks_print` is discharged with the next two lemmas, one physical line at a time; the concrete
example below evaluates it instead. -/

theorem logical_kept (ind content tr : Str) (rest : List Str) (hi : AllPad ind) (ht : AllPad tr)
    (hc : Clean content) (hk : keepLine content = true) :
    (((ind ++ content ++ tr) :: rest).map trim).filter keepLine = content :: (rest.map trim).filter keepLine := by
  rw [List.map_cons, trim_pad hi.allWs ht.allWs hc, List.filter_cons, hk]
  rfl

/-- blank lines, comments (`$ …`), legacy header lines (`+ …`) disappear -/
theorem logical_noise (body : Str) (rest : List Str) (hn : keepLine (trim body) = false) :
    ((body :: rest).map trim).filter keepLine = (rest.map trim).filter keepLine := by
  simp [List.map_cons, hn]

example : keepLine (trim "   ".toList) = false := by decide
example : keepLine (trim "$ comentario = 1 ..".toList) = false := by rw [String.toList_ofList]; decide +kernel
example : keepLine (trim "+-----+".toList) = false := by rw [String.toList_ofList]; decide +kernel
example : keepLine (trim "\tTEMPLARY".toList) = false := by rw [String.toList_ofList]; decide +kernel

/-! A one-block document and a padded CRLF file for it meet the hypotheses of `buildBlocks_print`. -/

def exAttr : WAttr := { key := "Z".toList, p1 := "   ".toList, p2 := " ".toList, val := .bare "+3.5".toList }
def exBlock : WBlock := { name := "P01".toList, btype := "FLOOR".toList, p1 := " ".toList, p2 := "\t".toList, attrs := [exAttr] }
def exPhys : List PLine :=
  [⟨"$ cabecera".toList, true⟩, ⟨"  \"P01\" =\tFLOOR ".toList, true⟩, ⟨"".toList, false⟩, ⟨"\tZ   = +3.5".toList, false⟩, ⟨"  ..".toList, true⟩]

theorem exBlock_wf : exBlock.WF where
  name_clean := by decide
  name_eq := by decide
  name_quotes := by decide
  type_known := by decide
  type_clean := by decide
  type_quotes := by decide
  pad1 := by decide
  pad2 := by decide
  attrs_ne := by decide
  attrs_wf := by
    intro a ha
    rw [List.mem_singleton.mp ha]
    exact ⟨⟨⟨by decide, by decide⟩, by decide, by decide, by decide, by decide, by decide⟩, trivial⟩
  no_eol := by decide

theorem exDoc_wf : DocWF [exBlock] where
  blocks := by intro b hb; rw [List.mem_singleton.mp hb]; exact exBlock_wf
  no_dots := by decide +kernel
  no_marker := by
    simp only [Cte.Gen.preambleMarkers, List.forall_mem_cons]
    repeat rw [String.toList_ofList]
    decide +kernel

example : buildBlocks (render exPhys) =
    .ok [{ btype := "FLOOR".toList, name := "P01".toList, parent := none,
           attrs := [("Z".toList, Val.num (Num.fin false 35 (-1)))] }] := by
  refine (buildBlocks_print [exBlock] exPhys ?_ ?_ exDoc_wf).trans (congrArg _ (by decide +kernel))
  all_goals
    unfold exPhys
    repeat rw [String.toList_ofList]
    decide +kernel

def exampleText : String :=
  "$ cabecera\r\n\"P01\" = FLOOR\r\n   Z   =   +3.5  \r\n   ..\r\n\r\n  \"P01_E01\"=SPACE\n\tPOLYGON = \"P01_E01_Pol\" \n  MATERIAL = ( \"a\",\n      \"b\" )\n ..\n \"M1\" = EXTERIOR-WALL\n LOCATION = SPACE-V1\n ..\n\"H1\" = WINDOW\n X = .5\n ..\n"

/-- a four-block text in mixed layout, evaluated.  `String.toList_ofList` hands the kernel the characters of the
    literal, not its UTF-8 bytes to decode. -/
theorem exampleText_blocks : (buildBlocks exampleText.toList).toOption = some
    [{ btype := "FLOOR".toList, name := "P01".toList, parent := none,
       attrs := [("Z".toList, .num (.fin false 35 (-1)))] },
     { btype := "SPACE".toList, name := "P01_E01".toList, parent := some "P01".toList,
       attrs := [("POLYGON".toList, .str "P01_E01_Pol".toList), ("MATERIAL".toList, .str "( \"a\",\"b\" )".toList)] },
     { btype := "EXTERIOR-WALL".toList, name := "M1".toList, parent := some "P01_E01".toList,
       attrs := [("LOCATION".toList, .str "SPACE-V1".toList)] },
     { btype := "WINDOW".toList, name := "H1".toList, parent := some "M1".toList,
       attrs := [("X".toList, .num (.fin false 5 (-1)))] }] := by
  rw [exampleText, String.toList_ofList]
  decide +kernel

example : (buildBlocks exampleText.toList).toOption.map (fun bs => bs.map (fun b => (String.ofList b.name, b.parent.map String.ofList))) =
    some [("P01", none), ("P01_E01", some "P01"), ("M1", some "P01_E01"), ("H1", some "M1")] := by
  rw [exampleText_blocks]; decide +kernel

example : (buildBlocks exampleText.toList).toOption.map (fun bs => bs.map (fun b => b.attrs.map (fun kv => (String.ofList kv.1, kv.2)))) =
    some [[("Z", Val.num (Num.fin false 35 (-1)))],
          [("POLYGON", Val.str "P01_E01_Pol".toList), ("MATERIAL", Val.str "( \"a\",\"b\" )".toList)],
          [("LOCATION", Val.str "SPACE-V1".toList)],
          [("X", Val.num (Num.fin false 5 (-1)))]] := by
  rw [exampleText_blocks]; decide +kernel

end Cte.Props.C18
