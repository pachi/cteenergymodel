/-
  C03 — Conversion preserves the building's geometry and orientation conventions.

  `Place.wallCorners` (the model of `wall_geometry` followed by `to_global_coords_matrix`) sends each polygon point `(u, v)`
  of a wall through `toGlobal (wallPosition ..) (azimuth52016 ..) tilt u v`.  The statements are about that expression, one for
  each way a wall is located in its space, against the source convention `Place.placeSpec`; all are readings of
  `Place.wall_placed`.  `wallCorners` itself occurs only in the example.  Angles are (cos, sin) pairs, unit only where assumed.
-/
import Cte.Lemmas.Rot

namespace Cte.Props.C03
open Cte.Place

theorem wallPosition_spec (g : Ang) (sp : SpaceP) (p : Vec3) : wallPosition g sp p = placeSpec g sp p :=
  congrArg (rotZ _) (vadd_comm _ _)

/-- **a surface given by its own polygon, azimuth `A` and tilt `t`**: the polygon point `(u, v)` lands on
    origin + u·x̂ + v·ŷ with x̂ = (−cos A, sin A, 0) (to the right seen from outside) and
    ŷ = (−cos t·sin A, −cos t·cos A, sin t) (up the slope), placed by the source convention -/
theorem own_polygon_surface (g A t : Ang) (sp : SpaceP) (o : Vec3) (u v : Rat) :
    toGlobal (wallPosition g sp o) (azimuth52016 g sp.ang A) t u v =
      placeSpec g sp ⟨o.x + u * (-A.c) + v * (-(t.c * A.s)), o.y + u * A.s + v * (-(t.c * A.c)), o.z + v * t.s⟩ := by
  rw [wall_placed, toGlobal_eq]
  congr 2 <;> ring

/-- **a wall on an outline edge spans exactly that edge over the storey height**: for the edge from `p1` with direction
    `(dx, dy)` — outward normal `(dy, −dx)`, i.e. (cos θ, sin θ) = (−dx, dy) for its clockwise-from-north angle θ — the point
    `(u, v)` lands on `p1 + u·(dx, dy)` at height `v`, whatever the space angle, offset and global deviation -/
theorem edge_wall_spans_edge (g : Ang) (sp : SpaceP) (b : Vec3) (dx dy u v : Rat) :
    toGlobal (wallPosition g sp b) (azimuth52016 g sp.ang ⟨-dx, dy⟩) Ang.half u v =
      placeSpec g sp ⟨b.x + u * dx, b.y + u * dy, b.z + v⟩ := by
  rw [own_polygon_surface]; simp [Ang.half]

/-- its normal is the edge's outward normal `(dy, −dx)`, placed by the source convention -/
theorem edge_wall_normal (g : Ang) (sp : SpaceP) (dx dy : Rat) :
    rotZ (azimuth52016 g sp.ang ⟨-dx, dy⟩) (rotX Ang.half ⟨0, 0, 1⟩) =
      rotZ (Ang.neg g) (rotZ (Ang.neg sp.ang) ⟨dy, -dx, 0⟩) := by
  rw [azimuth52016_eq, rotZ_add, rotZ_add]
  simp [rotZ, rotX, Ang.half]

/-- **a ceiling taken from the space outline reproduces the outline at ceiling level** (wall azimuth `w`, unit) -/
theorem top_outline_reproduced (g w : Ang) (hw : Ang.Unit w) (sp : SpaceP) (ws : Vec3) (p : Rat × Rat) :
    toGlobal (wallPosition g sp ⟨ws.x, ws.y, ws.z + sp.height⟩) (azimuth52016 g sp.ang w) Ang.zero
        (rot2 (Ang.add w Ang.pi) p).1 (rot2 (Ang.add w Ang.pi) p).2 =
      placeSpec g sp ⟨p.1 + ws.x, p.2 + ws.y, ws.z + sp.height⟩ := by
  unfold Ang.Unit at hw
  rw [wall_placed, toGlobal_eq]
  -- the polygon was turned by w + 180°, the local axes are turned by 180° − w: together the identity
  congr 2 <;> simp only [rot2, Ang.add, Ang.pi, Ang.zero]
  · linear_combination p.1 * hw
  · linear_combination p.2 * hw
  · ring

/-- **a floor taken from the space outline reproduces the outline at floor level**: BOTTOM elements carry the
    wall azimuth 180° and tilt 180°, their polygon is the mirrored outline -/
theorem bottom_outline_reproduced (g : Ang) (sp : SpaceP) (ws : Vec3) (p : Rat × Rat) :
    toGlobal (wallPosition g sp ws) (azimuth52016 g sp.ang Ang.pi) Ang.pi
        (rot2 (Ang.add Ang.pi Ang.pi) p).1 (-(rot2 (Ang.add Ang.pi Ang.pi) p).2) =
      placeSpec g sp ⟨p.1 + ws.x, p.2 + ws.y, ws.z⟩ := by
  rw [wall_placed, toGlobal_eq]
  congr 2 <;> simp only [rot2, Ang.add, Ang.pi] <;> ring

/-- **turning the whole building** by δ turns every placed point by δ (clockwise) -/
theorem turn_positions (g d : Ang) (sp : SpaceP) (p : Vec3) :
    placeSpec (Ang.add g d) sp p = rotZ (Ang.neg d) (placeSpec g sp p) := by
  unfold placeSpec
  rw [Ang.add_comm, Ang.neg_add, rotZ_add]

/-- … and shifts every azimuth by −δ -/
theorem turn_azimuth (g d a w : Ang) :
    azimuth52016 (Ang.add g d) a w = Ang.add (azimuth52016 g a w) (Ang.neg d) := by
  unfold azimuth52016
  generalize Ang.add a w = b
  apply Ang.ext <;> simp only [Ang.add, Ang.neg, Ang.pi] <;> ring

/-- … so every corner of every wall turns with the building -/
theorem turn_corners (g d w t : Ang) (sp : SpaceP) (loc : Vec3) (u v : Rat) :
    toGlobal (wallPosition (Ang.add g d) sp loc) (azimuth52016 (Ang.add g d) sp.ang w) t u v =
      rotZ (Ang.neg d) (toGlobal (wallPosition g sp loc) (azimuth52016 g sp.ang w) t u v) := by
  rw [wall_placed, wall_placed, turn_positions]

theorem cross2_rot (a : Ang) (ha : Ang.Unit a) (p q : Rat × Rat) : cross2 (rot2 a p) (rot2 a q) = cross2 p q := by
  unfold Ang.Unit at ha
  unfold cross2 rot2
  simp only
  linear_combination (p.1 * q.2 - q.1 * p.2) * ha

theorem shoelaceFrom_rot (a : Ang) (ha : Ang.Unit a) (f : Rat × Rat) (l : List (Rat × Rat)) :
    shoelaceFrom (rot2 a f) (l.map (rot2 a)) = shoelaceFrom f l := by
  fun_induction shoelaceFrom f l with
  | case1 => rfl
  | case2 p => simp [shoelaceFrom, cross2_rot a ha]
  | case3 p q t ih =>
    simp only [List.map_cons, shoelaceFrom, cross2_rot a ha] at ih ⊢
    rw [ih]

/-- **areas are preserved**: turning an outline does not change its (signed) area -/
theorem area_rot (a : Ang) (ha : Ang.Unit a) (l : List (Rat × Rat)) : shoelace2 (l.map (rot2 a)) = shoelace2 l := by
  cases l with
  | nil => rfl
  | cons p t => exact shoelaceFrom_rot a ha p (p :: t)

/-- the wall on an edge of length `w` of a storey of height `h` has area `w·h` -/
theorem edge_wall_area (w h : Rat) : shoelace2 [(0, 0), (w, 0), (w, h), (0, h)] = 2 * (w * h) := by
  simp only [shoelace2, shoelaceFrom, cross2]; ring

/-! 3-4-5 angles are exact rational unit pairs -/

def a345 : Ang := ⟨3/5, 4/5⟩
example : Ang.Unit a345 := by unfold Ang.Unit a345; norm_num
example : Ang.Unit (Ang.add a345 Ang.pi) := by unfold Ang.Unit Ang.add Ang.pi a345; norm_num

/-- a space turned by the 3-4-5 angle and offset by (10, 2, 3) in a building deviated by the same angle: the wall on
    the edge from (0,0) to (4,0) -/
example : wallCorners a345 ⟨-1, 0⟩ Ang.half ⟨⟨10, 2, 3⟩, a345, 3⟩ [(0,0),(4,0),(4,5),(0,5)] ⟨.edge (0,0) 4, 0, 0, 0⟩ =
    [placeSpec a345 ⟨⟨10, 2, 3⟩, a345, 3⟩ ⟨0, 0, 0⟩, placeSpec a345 ⟨⟨10, 2, 3⟩, a345, 3⟩ ⟨4, 0, 0⟩,
     placeSpec a345 ⟨⟨10, 2, 3⟩, a345, 3⟩ ⟨4, 0, 3⟩, placeSpec a345 ⟨⟨10, 2, 3⟩, a345, 3⟩ ⟨0, 0, 3⟩] := by
  decide +kernel

/-- **a rectangular shade keeps its place**: for every deviation, azimuth, tilt and origin the converted surface maps `(u, v)`,
    in particular the four corners (`rect_shade_corners`), to the point the source convention gives -/
theorem rect_shade_point (g a t : Ang) (o : Vec3) (u v : Rat) :
    toGlobal (rotZ (Ang.neg g) o) (azimuth52016 g Ang.zero a) t u v = rectShadeSpec g a t o u v := by
  rw [azimuth52016_eq, ← rotZ_toGlobal, toGlobal_eq]
  unfold rectShadeSpec
  congr 1
  apply Vec3.ext <;> simp only [vadd, vsmul, Ang.add, Ang.neg, Ang.zero] <;> ring

theorem rect_shade_corners (g a t : Ang) (o : Vec3) (w h : Rat) :
    rectShadeCorners g a t o w h =
      [rectShadeSpec g a t o 0 0, rectShadeSpec g a t o w 0, rectShadeSpec g a t o w h, rectShadeSpec g a t o 0 h] := by
  simp [rectShadeCorners, rect_shade_point]

/-- the polygon of a rectangular shade is the `w × h` rectangle itself; that the pose moves it rigidly is not stated -/
theorem rect_shade_area (w h : Rat) : shoelace2 [(0, 0), (w, 0), (w, h), (0, h)] = 2 * (w * h) :=
  edge_wall_area w h

/-- **a vertex-defined shade keeps its corner points**: for the (unit) azimuth `a` and tilt `t` the conversion derives, a vertex
    in the plane they describe through the first vertex — local z = 0, what dropping that coordinate assumes — comes back as the
    source vertex turned by the building's deviation -/
theorem vert_shade_corner (g a t : Ang) (ha : Ang.Unit a) (ht : Ang.Unit t) (v0 v : Vec3)
    (hplane : (vertShadeLocal a t v0 v).z = 0) :
    vertShadeCorner g a t v0 v = rotZ (Ang.neg g) v := by
  unfold vertShadeCorner
  rw [Ang.add_comm, ← rotZ_toGlobal]
  congr 1
  -- padded with its z = 0 the local point is the local vector: tilt and azimuth undo `vertShadeLocal`
  have hl : (⟨(vertShadeLocal a t v0 v).x, (vertShadeLocal a t v0 v).y, 0⟩ : Vec3) = vertShadeLocal a t v0 v :=
    Vec3.ext rfl rfl hplane.symm
  unfold toGlobal
  rw [hl, vertShadeLocal, rotX_neg_cancel ht, rotZ_neg_cancel ha]
  apply Vec3.ext <;> simp only [vadd] <;> ring

theorem vert_shade_first_vertex (g a t : Ang) (ha : Ang.Unit a) (ht : Ang.Unit t) (v0 : Vec3) :
    vertShadeCorner g a t v0 v0 = rotZ (Ang.neg g) v0 :=
  vert_shade_corner g a t ha ht v0 v0 (by simp [vertShadeLocal, rotX, rotZ, Ang.neg])

/-- the plane hypothesis is met by a horizontal canopy (tilt 0, all vertices at the first one's height) for any azimuth, and by
    a vertical screen facing (3/5, 4/5) -/
example (g a : Ang) (ha : Ang.Unit a) (v0 : Vec3) (x y : Rat) :
    vertShadeCorner g a Ang.zero v0 ⟨x, y, v0.z⟩ = rotZ (Ang.neg g) ⟨x, y, v0.z⟩ :=
  vert_shade_corner g a Ang.zero ha (by simp [Ang.Unit, Ang.zero]) v0 ⟨x, y, v0.z⟩ (by simp [vertShadeLocal, rotX, rotZ, Ang.neg, Ang.zero])

example : (vertShadeLocal ⟨3 / 5, 4 / 5⟩ Ang.half ⟨1, 2, 0⟩ ⟨1 + 3, 2 + 4, 7⟩).z = 0 ∧ Ang.Unit ⟨3 / 5, 4 / 5⟩ ∧ Ang.Unit Ang.half := by
  refine ⟨by decide +kernel, by unfold Ang.Unit; norm_num, by unfold Ang.Unit Ang.half; norm_num⟩

end Cte.Props.C03
