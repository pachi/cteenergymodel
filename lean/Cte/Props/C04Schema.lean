/-
C04, part 2 — the schema the source declares (regenerated from bemodel/src/types/*.rs on every run)
meets the side conditions of the codec theorems, so every struct of the model format round-trips.
-/
import Cte.Gen.Schema
import Cte.Props.C04
namespace Cte.C04
open Cte.Codec

/-- the fields written under the struct's own keys; a flattened field writes its alternative's keys (`matprops_no_clash`) -/
def ownFields (s : StructSpec) : List Field := (s.fields.filter (fun f => !f.flatten)).map (·.field)

theorem schema_keys_nodup : ∀ s ∈ Gen.schema, ((ownFields s).map (·.key)).Nodup := by
  decide +kernel

/-- every struct of the declared schema loads back every field value -/
theorem schema_roundtrip (s : StructSpec) (hs : s ∈ Gen.schema) (vs : List J)
    (hlen : vs.length = (ownFields s).length) :
    decodeFields (ownFields s) (encodeFields (ownFields s) vs) = some vs :=
  roundtrip _ vs hlen (schema_keys_nodup s hs)

theorem schema_idempotent (s : StructSpec) (hs : s ∈ Gen.schema) (vs : List J)
    (hlen : vs.length = (ownFields s).length) :
    (decodeFields (ownFields s) (encodeFields (ownFields s) vs)).map (encodeFields (ownFields s)) =
      some (encodeFields (ownFields s) vs) :=
  idempotent _ vs hlen (schema_keys_nodup s hs)

/-- the struct names a type refers to; tuples and untagged enums are not looked into -/
def tyRefs : Ty → List String
  | .leaf => []
  | .opt t => tyRefs t
  | .list t => tyRefs t
  | .map t => tyRefs t
  | .struct n => [n]
  | .untagged _ => []
  | .tuple _ => []

theorem schema_closed : ∀ s ∈ Gen.schema, ∀ f ∈ s.fields, ∀ n ∈ tyRefs f.ty, n ∈ Gen.schema.map (·.name) := by
  decide +kernel

theorem schema_names_nodup : (Gen.schema.map (·.name)).Nodup := by decide +kernel

theorem schema_has_model : "Model" ∈ Gen.schema.map (·.name) := by decide +kernel

/-! ### material properties: two untagged alternatives flattened into the material -/

def altFields (alts : List FieldT) : List Field := alts.map (·.field)

theorem untagged_ok :
    ∀ u ∈ Gen.untaggedAlts, ∀ a ∈ u.2, ((altFields a).map (·.key)).Nodup := by decide +kernel

/-- the detailed alternative has a required key the resistance alternative never writes, so a resistance-only
material is never read as a detailed one -/
theorem matprops_distinguishable :
    ∃ f ∈ altFields Gen.fields_MatProps_Detailed,
      (match f.rule with | .req => true | _ => false) = true ∧
      f.key ∉ (altFields Gen.fields_MatProps_Resistance).map (·.key) :=
  ⟨{ key := "conductivity", rule := .req }, by simp [altFields, Gen.fields_MatProps_Detailed], rfl, by decide +kernel⟩

/-- no alternative uses a key of the struct it is flattened into -/
theorem matprops_no_clash :
    ∀ k ∈ (ownFields { name := "Material", fields := Gen.fields_Material }).map (·.key),
      k ∉ (altFields Gen.fields_MatProps_Detailed).map (·.key) ∧
      k ∉ (altFields Gen.fields_MatProps_Resistance).map (·.key) := by decide +kernel

theorem matprops_roundtrip (vs : List J) :
    (vs.length = (altFields Gen.fields_MatProps_Detailed).length →
      decodeEither (altFields Gen.fields_MatProps_Detailed) (altFields Gen.fields_MatProps_Resistance)
        (encodeFields (altFields Gen.fields_MatProps_Detailed) vs) = some (true, vs)) ∧
    (vs.length = (altFields Gen.fields_MatProps_Resistance).length →
      decodeEither (altFields Gen.fields_MatProps_Detailed) (altFields Gen.fields_MatProps_Resistance)
        (encodeFields (altFields Gen.fields_MatProps_Resistance) vs) = some (false, vs)) := by
  have hnd := untagged_ok ("MatProps", [Gen.fields_MatProps_Detailed, Gen.fields_MatProps_Resistance])
    (by simp [Gen.untaggedAlts])
  obtain ⟨⟨_, rule⟩, hf, hreq, hnot⟩ := matprops_distinguishable
  exact ⟨fun h => untagged_first _ _ vs h (hnd _ (by simp)),
    fun h => untagged_second _ _ vs h (hnd _ (by simp)) _ hf (match rule, hreq with | .req, _ => rfl) hnot⟩

/-! ### non-vacuity: the space struct has fields of its own -/
example : (ownFields { name := "Space", fields := Gen.fields_Space }).length = 11 := by decide +kernel

end Cte.C04
