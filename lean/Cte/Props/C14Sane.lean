/-
C14, second sentence, for the U-values: one decidable sanity test (`saneU`, evaluated by the driver on the
models the harness calls sane) under which no wall of the model has a U-value with a failed division —
the branch theorems of `Cte/Props/C14.lean` for the ground and for partitions composed (the air-contact arm raises no
flag by definition).
-/
import Cte.Model.Sane
import Cte.Props.C14
namespace Cte.C14S
open Cte.C14

variable {F : Fns} {m : Model}

/-- the hypotheses of the branch theorems, read off the Boolean test -/
structure Hyps (F : Fns) (m : Model) : Prop where
  bias : F.bias = 0
  pi : 0 < F.pi
  area : ∀ x ∈ m.walls, 0 < x.area
  res : ∀ x ∈ m.walls, ∀ c r, m.cons.getWallCons x.cons = some c → c.resistance m.cons = some r → 0 ≤ r
  dIns : 0 ≤ m.info.dPerimInsulation
  rIns : 0 ≤ m.info.rnPerimInsulation
  uw : ∀ w ∈ m.walls, w.bounds = .ground → ∀ c r, m.cons.getWallCons w.cons = some c →
    c.resistance m.cons = some r → 0 < F.r2 (uExteriorRaw w.tiltC r)
  spaces : ∀ s ∈ m.spaces, uncondOKb F m s = true

theorem hyps_of_saneU (h : saneU F m = true) : Hyps F m := by
  simp only [saneU, Bool.and_eq_true, decide_eq_true_eq, List.all_eq_true] at h
  obtain ⟨⟨⟨⟨⟨⟨⟨hb, hpi⟩, ha⟩, hr⟩, hd⟩, hrn⟩, hu⟩, hs⟩ := h
  -- the test reads the resistance through `Wall.resOf`, the branch theorems through its two lookups
  exact ⟨hb, hpi, ha, fun x hx c r hc hrr => by simpa [Wall.resOf_eq_some_iff.2 ⟨c, hc, hrr⟩] using hr x hx, hd, hrn,
    fun w hw hg c r hc hrr => by simpa [Wall.resOf_eq_some_iff.2 ⟨c, hc, hrr⟩, hg] using hu w hw, hs⟩

theorem nonInterior_finite (H : Hyps F m) : ∀ w ∈ m.walls, ∀ u, w.uNonInterior F m = some u → u.nf = false := by
  intro w hw u hu
  by_cases hb : w.bounds = .ground
  · cases hq : w.resOf m with
    | none => rw [Wall.uNonInterior_none_of_resOf hq] at hu; cases hu
    | some r =>
      obtain ⟨c, hc, hr⟩ := Wall.resOf_eq_some_iff.1 hq
      exact ground_uValue_finite F H.bias H.pi w m c r u hb hc hr (H.uw w hw hb c r hc hr) H.area H.res H.dIns H.rIns
        (by rwa [Wall.uValue_of_not_interior (by simp [hb])])
  · rw [Wall.uNonInterior_air hb] at hu
    obtain ⟨r, _, rfl⟩ := Option.map_eq_some_iff.1 hu
    rfl

theorem uncondOK_of_hyps (H : Hyps F m) : ∀ s ∈ m.spaces, UncondOK F m s := by
  intro s hs
  have hb := H.spaces s hs
  simp only [uncondOKb, Bool.and_eq_true, decide_eq_true_eq] at hb
  obtain ⟨⟨h1, h2⟩, h3⟩ := hb
  refine ⟨uaExt_nf F m s (nonInterior_finite H), h1, h2, ?_⟩
  split at h3
  next n hn => exact ⟨n, hn, of_decide_eq_true h3⟩
  · cases h3

/-- no wall — in contact with air, with the ground, or a partition of any kind — has a U-value that went through a failed division -/
theorem saneU_walls_finite (h : saneU F m = true) :
    ∀ w ∈ m.walls, ∀ u, w.uValue F m = some u → u.nf = false := by
  have H := hyps_of_saneU h
  intro w hw u hu
  by_cases hb : w.bounds = .interior
  · cases hq : w.resOf m with
    | none => rw [Wall.uValue_none_of_resOf hq] at hu; cases hu
    | some r =>
      obtain ⟨c, hc, hr⟩ := Wall.resOf_eq_some_iff.1 hq
      exact partition_uValue_finite F w m c r u hb (H.area w hw) hc hr (H.res w hw c r hc hr) (uncondOK_of_hyps H) hu
  · exact nonInterior_finite H w hw u (by rwa [← Wall.uValue_of_not_interior hb])

/-- in the driver's words: the list of walls with a failed division is empty -/
theorem saneU_nfWalls_empty (h : saneU F m = true) : nfWalls F m = [] := by
  unfold nfWalls
  rw [List.map_eq_nil_iff, List.filter_eq_nil_iff]
  intro w hw
  cases hu : w.uValue F m with
  | none => simp
  | some u => simp [saneU_walls_finite h w hw u hu]

/-- the buried room of `C14.exModel` passes the test -/
example : saneU Fns.approx exModel = true := by decide +kernel

end Cte.C14S
