/-
C05 — the process model is the one the source gives.
`Cte/Gen/LockSites.lean` is regenerated from /repo on every run (tools/gen_lock_sites.py): the `static` items of the library crates,
every `.lock()` site with its guard's extent, and the lock program of each function that locks.  The kernel re-checks the
obligations below against that inventory.
-/
import Cte.Gen.LockSites
namespace Cte.C05Src
open Cte.Proc

def lockEvents (p : Prog) : Prog := p.filter (fun a => a != .work)

def progOf (f : String) : Prog := ((Gen.lockProgs.find? (fun p => p.1 == f)).map (·.2)).getD []

/-- **the only shared mutable state of the library crates is the three read-only tables**: every `static` that is not immutable
    is a `Mutex`-guarded table, and these are exactly `JULYRADDATA`, `MONTHLYRADDATA`, `CLIMATEMETADATA` -/
theorem repo_shared_state :
    (Gen.staticItems.filter (fun s => s.kind != "immutable")).map (fun s => (s.name, s.kind)) =
      [("JULYRADDATA", "table"), ("MONTHLYRADDATA", "table"), ("CLIMATEMETADATA", "table")] := by decide +kernel

/-- **the machine has no write transition because the code has none**: no statement holding a guard calls a mutating method on it
    or binds it mutably -/
theorem repo_no_guard_writes : Gen.lockSites.all (fun s => !s.writes) = true := by decide +kernel

/-- every function of the source that locks takes one lock at a time and releases what it took -/
theorem repo_lock_progs_wf : Gen.lockProgs.all (fun p => wfFrom none p.2) = true := by decide +kernel

/-- the functions that lock are the two the model knows -/
theorem repo_locking_functions :
    Gen.lockProgs.map (·.1) = ["compute_fshobst", "total_radiation_in_july_by_orientation"] := by decide +kernel

/-- **the modelled program of `EnergyIndicators::compute` has the lock events of the source**: the monthly table inside
    `total_radiation_in_july_by_orientation` (temporary guard), then in `compute_fshobst` the metadata table (temporary guard) and the
    July table (guard held to the end of the function) -/
theorem indicatorsProg_matches_source :
    lockEvents indicatorsProg = lockEvents (progOf "total_radiation_in_july_by_orientation" ++ progOf "compute_fshobst") := by
  decide +kernel

end Cte.C05Src
