/-
C16, last clause — purging "leaves the reference area, volumes, K, n50 and q_sol;jul unchanged".

`Agree` relates two models: same elements, the spaces of the second are those of the first that some wall
refers to, and every lookup the indicator pipeline performs from an element gives the same answer in both.
`purge_agree`: `purge m` agrees with `m`; the `Agree.*_eq` lemmas push it through the functions of
`Cte/Model/Energy.lean` that read a model or a database, in that file's order.  Those about a function that
takes `walls` or `cons` as arguments of their own (`heightNet`, `slabDt`, `slabCharDim`) are stated with
`m.walls` on both sides: rewrite with `A.walls` first.  Two tables of props come out filtered by "in use",
not equal (`spaceProps_eq`, `winConsProps_eq`), as do the bridges; what reads them does not notice such a
filter (`globalProps_eq`, `n50Data_filter_eq`, `qTerms_filter_eq`, `kData_filter_eq`).
-/
import Cte.Lemmas.Purge
import Cte.Lemmas.Energy
import Cte.Model.Indicators
namespace Cte.C16I

def usedSpace (m : Model) (i : Id) : Bool := (spacesUsed m).contains i
def usedWinCons (m : Model) (i : Id) : Bool := (m.windows.map (·.cons)).contains i

structure Agree (m m' : Model) : Prop where
  walls : m'.walls = m.walls
  windows : m'.windows = m.windows
  info : m'.info = m.info
  overrides : m'.overrides = m.overrides
  spaces : m'.spaces = m.spaces.filter (fun s => usedSpace m s.id)
  wallcons : ∀ w ∈ m.walls, m'.cons.getWallCons w.cons = m.cons.getWallCons w.cons
  res : ∀ w ∈ m.walls, ∀ c, m.cons.getWallCons w.cons = some c →
    c.resistance m'.cons = c.resistance m.cons
  wincons : m'.cons.wincons = m.cons.wincons.filter (fun c => usedWinCons m c.id)
  glass : ∀ c ∈ m'.cons.wincons, m'.cons.getGlass c.glass = m.cons.getGlass c.glass
  frame : ∀ c ∈ m'.cons.wincons, m'.cons.getFrame c.frame = m.cons.getFrame c.frame

variable {m m' : Model}

theorem used_space_of_wall {w : Wall} (hw : w ∈ m.walls) : usedSpace m w.space = true :=
  List.contains_iff_mem.2 (mem_spacesUsed.2 ⟨w, hw, .inl rfl⟩)

theorem used_space_of_next {w : Wall} {n : Id} (hw : w ∈ m.walls) (hn : w.nextTo = some n) :
    usedSpace m n = true :=
  List.contains_iff_mem.2 (mem_spacesUsed.2 ⟨w, hw, .inr hn⟩)

theorem used_wincons {x : Window} (hx : x ∈ m.windows) : usedWinCons m x.cons = true :=
  List.contains_iff_mem.2 (List.mem_map_of_mem hx)

/-! ## lookups, constructions -/
theorem Agree.getSpace_eq (A : Agree m m') {i : Id} (hi : usedSpace m i = true) :
    m'.getSpace i = m.getSpace i := by
  unfold Model.getSpace; rw [A.spaces]; exact find?_filter_key hi

theorem Agree.getWinCons_eq (A : Agree m m') {x : Window} (hx : x ∈ m.windows) :
    m'.cons.getWinCons x.cons = m.cons.getWinCons x.cons := by
  unfold ConsDb.getWinCons
  rw [A.wincons]; exact find?_filter_key (used_wincons hx)

theorem Agree.resOf_eq (A : Agree m m') {w : Wall} (hw : w ∈ m.walls) : w.resOf m' = w.resOf m := by
  unfold Wall.resOf
  rw [A.wallcons w hw]
  exact Option.bind_congr (A.res w hw)

theorem Agree.winUValue_eq (A : Agree m m') (F : Fns) {c : WinCons} (hc : c ∈ m'.cons.wincons) :
    c.uValue F m'.cons = c.uValue F m.cons := by
  unfold WinCons.uValue WinCons.uValueRaw; rw [A.glass c hc, A.frame c hc]

theorem Agree.gGlwi_eq (A : Agree m m') (F : Fns) {c : WinCons} (hc : c ∈ m'.cons.wincons) :
    c.gGlwi F m'.cons = c.gGlwi F m.cons := by
  unfold WinCons.gGlwi; rw [A.glass c hc]

theorem Agree.gGlshwiV_eq (A : Agree m m') (F : Fns) {c : WinCons} (hc : c ∈ m'.cons.wincons) :
    c.gGlshwiV F m'.cons = c.gGlshwiV F m.cons := by
  unfold WinCons.gGlshwiV; rw [A.gGlwi_eq F hc]

theorem Agree.winConsU_eq (A : Agree m m') (F : Fns) {x : Window} (hx : x ∈ m.windows) :
    (m'.cons.getWinCons x.cons).bind (fun c => c.uValue F m'.cons)
      = (m.cons.getWinCons x.cons).bind (fun c => c.uValue F m.cons) := by
  rw [← A.getWinCons_eq hx]
  exact Option.bind_congr fun c h => A.winUValue_eq F (List.mem_of_find?_eq_some h)

/-! ## spaces -/
theorem area_eq_zero_of_unused (s : Space) (h : usedSpace m s.id = false) : s.area m.walls = 0 := by
  have : m.walls.filter (fun w => w.space = s.id && w.tiltC = .bottom) = [] :=
    List.filter_eq_nil_iff.2 fun w hw hc => by
      have hu := used_space_of_wall hw
      rw [of_decide_eq_true (Bool.and_eq_true_iff.1 hc).1, h] at hu
      cases hu
  unfold Space.area; rw [this]; rfl

theorem Agree.heightNet_eq (A : Agree m m') (F : Fns) (s : Space) :
    s.heightNet F m.walls m'.cons = s.heightNet F m.walls m.cons := by
  unfold Space.heightNet
  rw [Option.bind_congr (o := s.topWall m.walls) fun w h => A.wallcons w (List.mem_of_find?_eq_some h)]

theorem Agree.volEnvInhNetU_eq (A : Agree m m') (F : Fns) : m'.volEnvInhNetU F = m.volEnvInhNetU F := by
  unfold Model.volEnvInhNetU
  rw [A.spaces, A.walls, rsum_map_filter_filter_zero]
  · simp only [A.heightNet_eq]
  · intro s _ hs
    simp only [area_eq_zero_of_unused s hs, zero_mul]

theorem Agree.globalVentilationU_eq (A : Agree m m') (F : Fns) :
    m'.globalVentilationU F = m.globalVentilationU F := by
  unfold Model.globalVentilationU; rw [A.info, A.volEnvInhNetU_eq]

theorem Agree.ventU_eq (A : Agree m m') (F : Fns) (s : Space) : s.ventU F m' = s.ventU F m := by
  unfold Space.ventU; rw [A.globalVentilationU_eq]

/-! ## U-values -/
theorem Agree.slabDt_eq (A : Agree m m') (s : Space) :
    s.slabDt m.walls m'.cons = s.slabDt m.walls m.cons := by
  unfold Space.slabDt
  dsimp only
  -- the terms of the first sum spell `Wall.resOf` out
  rw [List.map_congr_left fun w hw => by
    rw [← Wall.resOf, A.resOf_eq (mem_wallsOf (List.mem_filter.1 hw).1), Wall.resOf]]

theorem Agree.slabPsi_eq (A : Agree m m') (F : Fns) (dt : Rat) : slabPsi F m' dt = slabPsi F m dt := by
  unfold Cte.slabPsi; rw [A.info]

theorem Agree.sideAreas_eq (A : Agree m m') (s : Space) {sw : List Wall} (hsw : ∀ w ∈ sw, w ∈ m.walls) :
    sideAreas s m'.spaces sw = sideAreas s m.spaces sw := by
  unfold Cte.sideAreas
  refine List.foldl_ext _ _ _ fun acc w hw => ?_
  have e : ∀ n, w.nextTo = some n → m'.spaces.find? (·.id = n) = m.spaces.find? (·.id = n) :=
    fun n hn => A.getSpace_eq (used_space_of_next (hsw w (List.mem_filter.1 hw).1) hn)
  rw [Option.bind_congr e]

theorem Agree.slabCharDim_eq (A : Agree m m') (F : Fns) (s : Space) :
    s.slabCharDim F m.walls m'.spaces = s.slabCharDim F m.walls m.spaces := by
  unfold Space.slabCharDim
  simp only [A.sideAreas_eq s fun w hw => mem_wallsOf hw]

theorem Agree.uNonInterior_eq (A : Agree m m') (F : Fns) {w : Wall} (hw : w ∈ m.walls) :
    w.uNonInterior F m' = w.uNonInterior F m := by
  by_cases hb : w.bounds = .ground
  · simp only [Wall.uNonInterior_ground hb, A.resOf_eq hw, A.getSpace_eq (used_space_of_wall hw), A.walls,
      A.slabDt_eq, A.slabPsi_eq, A.slabCharDim_eq, A.heightNet_eq]
  · rw [Wall.uNonInterior_air hb, Wall.uNonInterior_air hb, A.resOf_eq hw]

theorem Agree.uaExt_eq (A : Agree m m') (F : Fns) (s : Space) : s.uaExt F m' = s.uaExt F m := by
  unfold Space.uaExt
  rw [A.walls, A.windows]
  refine List.foldl_ext _ _ _ fun acc w hw => ?_
  rw [A.uNonInterior_eq F (mem_wallsOf (List.mem_filter.1 hw).1),
    List.filterMap_congr fun x hx => by rw [A.winConsU_eq F (List.mem_filter.1 hx).1]]

theorem Agree.uValue_eq (A : Agree m m') (F : Fns) {w : Wall} (hw : w ∈ m.walls) :
    w.uValue F m' = w.uValue F m := by
  by_cases hb : w.bounds = .interior
  · cases hn : w.nextTo with
    | none =>
      simp only [Wall.uValue_interior_alone hb hn, A.resOf_eq hw, A.getSpace_eq (used_space_of_wall hw)]
    | some nid =>
      simp only [Wall.uValue_interior_next hb hn, A.resOf_eq hw, A.getSpace_eq (used_space_of_wall hw),
        A.getSpace_eq (used_space_of_next hw hn), A.walls, A.uaExt_eq, A.heightNet_eq, A.ventU_eq]
  · rw [Wall.uValue_of_not_interior hb, Wall.uValue_of_not_interior hb, A.uNonInterior_eq F hw]

/-! ## envelope membership, props -/
theorem Agree.isTenv_eq (A : Agree m m') {w : Wall} (hw : w ∈ m.walls) : w.isTenv m' = w.isTenv m := by
  unfold Wall.isTenv
  rw [A.getSpace_eq (used_space_of_wall hw),
    Option.bind_congr fun n hn => A.getSpace_eq (used_space_of_next hw hn)]

theorem Agree.tenvHas_eq (A : Agree m m') (i : Id) : m'.tenvHas i = m.tenvHas i := by
  unfold Model.tenvHas
  rw [A.walls, Bool.eq_iff_iff, List.any_eq_true, List.any_eq_true]
  exact exists_congr fun w => and_congr_right fun hw => by rw [A.isTenv_eq hw]

theorem Agree.wallMultiplier_eq (A : Agree m m') {w : Wall} (hw : w ∈ m.walls) :
    m'.wallMultiplier w = m.wallMultiplier w := by
  unfold Model.wallMultiplier
  rw [A.spaces, lastById_filter (fun s : Space => s.id) (usedSpace m),
    find?_filter_key (used_space_of_wall hw)]

theorem Agree.wallProps_eq (A : Agree m m') (F : Fns) : m'.wallProps F = m.wallProps F := by
  unfold Model.wallProps Model.wallOverride
  rw [A.walls, A.windows, A.overrides]
  refine List.map_congr_left fun w hw => ?_
  have hwm : w ∈ m.walls := lastById_subset hw
  rw [A.wallMultiplier_eq hwm, A.tenvHas_eq, A.uValue_eq F hwm]

theorem Agree.winConsProps_eq (A : Agree m m') (F : Fns) :
    m'.winConsProps F = (m.winConsProps F).filter (fun p => usedWinCons m p.id) := by
  unfold Model.winConsProps
  -- the figures of each construction of `m'` first, while it is known to be one
  rw [List.map_congr_left fun c h => by
    have hc := lastById_subset h
    rw [A.winUValue_eq F hc, A.gGlwi_eq F hc, A.gGlshwiV_eq F hc]]
  rw [A.wincons, lastById_filter (fun c : WinCons => c.id) (usedWinCons m), List.filter_map]
  rfl

theorem Agree.winProps_eq (A : Agree m m') (F : Fns) (fsh : Id → Option Rat) :
    m'.winProps F fsh = m.winProps F fsh := by
  unfold Model.winProps
  rw [A.wallProps_eq, A.windows, A.overrides, A.winConsProps_eq]
  refine List.map_congr_left fun x hx => ?_
  simp only [A.tenvHas_eq, find?_filter_key (used_wincons (lastById_subset hx))]

theorem Agree.spaceProps_eq (A : Agree m m') (F : Fns) :
    m'.spaceProps F = (m.spaceProps F).filter (fun s => usedSpace m s.id) := by
  unfold Model.spaceProps
  rw [A.spaces, lastById_filter (fun s : Space => s.id) (usedSpace m), A.walls, List.filter_map]
  exact List.map_congr_left fun s _ => by rw [A.heightNet_eq]

theorem spaceProps_area_eq_zero_of_unused (F : Fns) {s : SpaceP} (hs : s ∈ m.spaceProps F) (hu : usedSpace m s.id = false) :
    s.area = 0 := by
  unfold Model.spaceProps at hs
  obtain ⟨sp, _, rfl⟩ := List.mem_map.mp hs
  exact area_eq_zero_of_unused sp hu

theorem Agree.globalProps_eq (A : Agree m m') (F : Fns) : m'.globalProps F = m.globalProps F := by
  unfold Model.globalProps
  simp only [A.spaceProps_eq, A.wallProps_eq, A.info]
  -- the four sums over the spaces: every term has the floor area as a factor
  rw [rsum_map_filter_zero, rsum_map_filter_zero, rsum_map_filter_zero, rsum_map_filter_zero]
  all_goals intro s hs hu; simp only [spaceProps_area_eq_zero_of_unused F hs hu, zero_mul, ite_self]

/-! ## the indicators -/

section
variable {wins : List WinP} {q : Id → Bool} (h : ∀ x ∈ wins, q x.cons = true) {wc : List WinConsP}
include h

/-- n50 and q_sol;jul look a window's construction up by its id: constructions that no window names can go -/
theorem n50Data_filter_eq {walls : List WallP} {vol cO : Rat} {test : Option Rat} :
    n50Data walls wins (wc.filter (fun c => q c.id)) vol cO test = n50Data walls wins wc vol cO test := by
  have e : ∀ w : WallP, (winsOfWall wins w).map (fun x => x.area * winC100 (wc.filter (fun c => q c.id)) x)
      = (winsOfWall wins w).map (fun x => x.area * winC100 wc x) :=
    fun w => List.map_congr_left fun x hx => by
      unfold winC100; rw [find?_filter_key (h x (List.mem_filter.1 hx).1)]
  unfold n50Data
  simp only [e]

theorem qTerms_filter_eq {rad : Orient → Option Rat} :
    qTerms wins (wc.filter (fun c => q c.id)) rad = qTerms wins wc rad := by
  unfold qTerms
  exact List.map_congr_left fun x hx => by rw [find?_filter_key (h x (List.mem_filter.1 hx).1)]

end

theorem used_wincons_of_winProps (F : Fns) (fsh : Id → Option Rat) :
    ∀ x ∈ m.winProps F fsh, usedWinCons m x.cons = true := by
  intro x hx
  unfold Model.winProps at hx
  obtain ⟨w, hw, rfl⟩ := List.mem_map.1 hx
  exact used_wincons (lastById_subset hw)

theorem Agree.n50Of_eq (A : Agree m m') (F : Fns) (fsh : Id → Option Rat) : m'.n50Of F fsh = m.n50Of F fsh := by
  unfold Model.n50Of
  rw [A.globalProps_eq, A.wallProps_eq, A.winProps_eq, A.info, A.winConsProps_eq]
  exact n50Data_filter_eq (used_wincons_of_winProps F fsh)

theorem Agree.qsolOf_eq (A : Agree m m') (F : Fns) (fsh : Id → Option Rat) (rad : Orient → Option Rat) :
    m'.qsolOf F fsh rad = m.qsolOf F fsh rad := by
  unfold Model.qsolOf qSolJul
  rw [A.globalProps_eq, A.winProps_eq, A.winConsProps_eq, qTerms_filter_eq (used_wincons_of_winProps F fsh)]

/-- K reads thermal bridges only through sums of `l` and `psi·l`: bridges of length 0 change nothing -/
theorem kData_filter_eq {walls : List WallP} {wins : List WinP} {tbs : List ThermalBridge} {q : ThermalBridge → Bool}
    (hq : ∀ tb ∈ tbs, q tb = false → tb.l = 0) :
    kData walls wins (tbs.filter q) = kData walls wins tbs := by
  unfold kData
  simp only [rsum_map_filter_filter_zero tbs q _ (·.l) hq,
    rsum_map_filter_filter_zero tbs q _ (fun tb => tb.psi * tb.l) fun tb htb h0 => by rw [hq tb htb h0, mul_zero]]

theorem Agree.kOf_eq (A : Agree m m') (F : Fns) (fsh : Id → Option Rat) {q : ThermalBridge → Bool}
    (htb : m'.thermalBridges = m.thermalBridges.filter q)
    (hIds : (m.thermalBridges.map (·.id)).Nodup)
    (hq : ∀ tb ∈ m.thermalBridges, q tb = false → tb.l = 0) :
    m'.kOf F fsh = m.kOf F fsh := by
  unfold Model.kOf
  rw [A.wallProps_eq, A.winProps_eq, htb, lastById_of_nodup ((List.filter_sublist.map _).nodup hIds),
    lastById_of_nodup hIds]
  exact kData_filter_eq hq

/-! ## `purge m` agrees with `m` -/

theorem purge_agree (m : Model) : Agree m (purge m) where
  walls := purge_walls m
  windows := purge_windows m
  info := purge_info m
  overrides := purge_overrides m
  spaces := purge_spaces m
  wincons := purge_wincons m
  wallcons w hw := by
    unfold ConsDb.getWallCons; rw [purge_wallcons]
    exact find?_filter_key (List.contains_iff_mem.2 (List.mem_map_of_mem hw))
  res w hw c hc := by
    obtain ⟨hcm, hid⟩ := ConsDb.getWallCons_some hc
    have hcp : c ∈ (purge m).cons.wallcons := by
      rw [purge_wallcons, List.mem_filter, List.contains_iff_mem]
      exact ⟨hcm, List.mem_map.2 ⟨w, hw, hid.symm⟩⟩
    refine WallCons.resistance_congr fun l hl => ?_
    unfold layerResistance ConsDb.getMaterial
    rw [purge_materials, find?_filter_key (List.contains_iff_mem.2
      (List.mem_flatMap.2 ⟨c, hcp, List.mem_map_of_mem hl⟩))]
  glass c hc := by
    unfold ConsDb.getGlass; rw [purge_glasses]
    exact find?_filter_key (List.contains_iff_mem.2 (List.mem_map_of_mem hc))
  frame c hc := by
    unfold ConsDb.getFrame; rw [purge_frames]
    exact find?_filter_key (List.contains_iff_mem.2 (List.mem_map_of_mem hc))

/-- Purging changes none of the props of walls and windows (U-values, envelope membership, net areas,
multipliers included) and none of the global figures.  For every rounding regime `F`, every model — closed or not. -/
theorem purge_props_invariant (F : Fns) (m : Model) (fsh : Id → Option Rat) :
    (purge m).wallProps F = m.wallProps F ∧ (purge m).winProps F fsh = m.winProps F fsh ∧
    (purge m).globalProps F = m.globalProps F :=
  ⟨(purge_agree m).wallProps_eq F, (purge_agree m).winProps_eq F fsh, (purge_agree m).globalProps_eq F⟩

theorem purge_n50_qsol_invariant (F : Fns) (m : Model) (fsh : Id → Option Rat) (rad : Orient → Option Rat) :
    (purge m).n50Of F fsh = m.n50Of F fsh ∧ (purge m).qsolOf F fsh rad = m.qsolOf F fsh rad :=
  ⟨(purge_agree m).n50Of_eq F fsh, (purge_agree m).qsolOf_eq F fsh rad⟩

/-- K (with its whole breakdown) of the purged model is that of the model, when thermal-bridge ids are
unique and no bridge has a non-zero length below the purge threshold (`f32::EPSILON`): the code drops
bridges with `|l| ≤ ε`, the property speaks of bridges "of zero length". -/
theorem purge_k_invariant (F : Fns) (m : Model) (fsh : Id → Option Rat)
    (hIds : (m.thermalBridges.map (·.id)).Nodup)
    (hTb : ∀ tb ∈ m.thermalBridges, tb.l = 0 ∨ rabs tb.l > f32Eps) :
    (purge m).kOf F fsh = m.kOf F fsh :=
  (purge_agree m).kOf_eq F fsh (purge_bridges m) hIds fun tb htb hq =>
    (hTb tb htb).resolve_right (of_decide_eq_false hq)

/-! ## Non-vacuity, and the threshold hypothesis is needed -/

def exM : Model :=
  { info := Meta.dflt,
    spaces := [{ id := "s1", height := 3 }, { id := "unused", height := 2 }],
    walls := [{ id := "w1", bounds := .ground, cons := "c1", space := "s1",
                geometry := { tilt := 180, azimuth := 0, polygon := [⟨0, 0⟩, ⟨4, 0⟩, ⟨4, 5⟩, ⟨0, 5⟩] } }],
    thermalBridges := [{ id := "t0", l := 0, psi := 1 / 2 }, { id := "t1", l := 3, psi := 1 / 10 }],
    cons := { wallcons := [{ id := "c1", layers := [{ material := "m1", e := 1 / 5 }], absorptance := 3 / 5 },
                           { id := "c2", layers := [{ material := "m2", e := 1 / 10 }], absorptance := 3 / 5 }],
              materials := [{ id := "m1", properties := .detailed 1 1000 1000 none },
                            { id := "m2", properties := .resistance (1 / 2) none }] } }

example : (purge exM).spaces.length = 1 ∧ (purge exM).cons.wallcons.length = 1 ∧
    (purge exM).cons.materials.length = 1 ∧ (purge exM).thermalBridges.length = 1 ∧
    (exM.thermalBridges.map (·.id)).Nodup ∧
    (∀ tb ∈ exM.thermalBridges, tb.l = 0 ∨ rabs tb.l > f32Eps) := by decide +kernel

/-- `exM` with a single bridge of 10⁻¹⁰ m: shorter than `f32::EPSILON`, not of length 0 -/
def exTiny : Model := { exM with thermalBridges := [{ id := "t2", l := 1 / 10000000000, psi := 1 }] }

/-- The code purges that bridge, and the total bridge length in K's data (`tbsL`) changes with it: the equation of
`purge_k_invariant`, which is between whole `KData`, fails without its threshold hypothesis.  Only `tbsL` is
compared here, not the value `k`. -/
theorem purge_tiny_bridge_counterexample (F : Fns) (fsh : Id → Option Rat) :
    ((purge exTiny).kOf F fsh).tbsL ≠ (exTiny.kOf F fsh).tbsL := by
  have h1 : ((purge exTiny).kOf F fsh).tbsL = 0 := by
    simp only [Model.kOf, kData]; decide +kernel
  have h2 : (exTiny.kOf F fsh).tbsL = 1 / 10000000000 := by
    simp only [Model.kOf, kData]; decide +kernel
  rw [h1, h2]; decide +kernel

end Cte.C16I
