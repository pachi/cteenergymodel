/-
C04 — The JSON model format is lossless, idempotent and stable (format logic, struct by struct).
-/
import Cte.Model.Codec
import Cte.Lemmas.Codec
import Cte.Lemmas.OptionMapM
namespace Cte.C04
open Cte.Codec

/-- a field writes nothing or one pair under its own key; it writes nothing only if reading nothing gives its value back -/
theorem put_cases (f : Field) (v : J) : f.put v = [] ∧ f.get none = some v ∨ f.put v = [(f.key, v)] := by
  unfold Field.put Field.get
  cases f.rule with
  | req | optNull | dfltKeep d => simp
  | optSkip => cases v <;> simp
  | dfltSkip d =>
    by_cases hb : J.beq v d
    · cases J.beq_sound v d hb; simp [hb]
    · simp [hb]

theorem get_put_append (f : Field) (v : J) {rest : List (String × J)} (h : lookup f.key rest = none) :
    f.get (lookup f.key (f.put v ++ rest)) = some v := by
  rcases put_cases f v with ⟨hp, hg⟩ | hp
  · rw [hp, List.nil_append, h, hg]
  · simp [hp, lookup, Field.get]

theorem lookup_put_append (f : Field) (v : J) {rest : List (String × J)} {k : String} (h : k ≠ f.key) :
    lookup k (f.put v ++ rest) = lookup k rest := by
  rcases put_cases f v with ⟨hp, -⟩ | hp <;> simp [hp, lookup, h.symm]

theorem lookup_encode_none (fs : List Field) (vs : List J) {k : String} (h : k ∉ fs.map (·.key)) :
    lookup k (encodeFields fs vs) = none := by
  fun_induction encodeFields fs vs with
  | case1 f t v vs' ih =>
    simp only [List.map_cons, List.mem_cons, not_or] at h
    rw [lookup_put_append f v h.1, ih h.2]
  | case2 => rfl

theorem decodeFields_congr {fs : List Field} {o1 o2 : List (String × J)}
    (h : ∀ f ∈ fs, lookup f.key o1 = lookup f.key o2) : decodeFields fs o1 = decodeFields fs o2 :=
  mapM_congr fun f hf => by rw [h f hf]

/-- one struct level of the format is lossless: with pairwise distinct keys, decoding what was encoded returns every
field value — optional, defaulted and skipped fields included -/
theorem roundtrip (fs : List Field) (vs : List J) (hlen : vs.length = fs.length)
    (hk : (fs.map (·.key)).Nodup) : decodeFields fs (encodeFields fs vs) = some vs := by
  induction fs generalizing vs with
  | nil => cases List.eq_nil_of_length_eq_zero hlen; rfl
  | cons f t ih =>
    obtain ⟨v, vs', rfl⟩ := List.exists_cons_of_length_eq_add_one hlen
    obtain ⟨hf, ht⟩ := List.nodup_cons.1 hk
    -- the tail writes nothing under `f.key`, so `f` reads back what it wrote; `f` writes under no key of the tail
    have hself := get_put_append f v (lookup_encode_none t vs' hf)
    have htail : decodeFields t (f.put v ++ encodeFields t vs') = decodeFields t (encodeFields t vs') :=
      decodeFields_congr fun g hg => lookup_put_append f v fun e => hf (List.mem_map.2 ⟨g, hg, e⟩)
    have := ih vs' (Nat.succ.inj hlen) ht
    simp only [decodeFields, encodeFields, List.mapM_cons] at htail this ⊢
    rw [hself, htail, this]
    rfl

/-- serialising what was loaded from a serialisation gives the same JSON -/
theorem idempotent (fs : List Field) (vs : List J) (hlen : vs.length = fs.length)
    (hk : (fs.map (·.key)).Nodup) :
    (decodeFields fs (encodeFields fs vs)).map (encodeFields fs) = some (encodeFields fs vs) := by
  rw [roundtrip fs vs hlen hk]; rfl

/-- a field that is omitted loads exactly as if its default had been written -/
theorem omitted_default (f : Field) (d : J) (h : f.rule = .dfltSkip d ∨ f.rule = .dfltKeep d) :
    f.get none = f.get (some d) := by
  rcases h with h | h <;> simp [Field.get, h]

theorem omitted_option (f : Field) (h : f.rule = .optSkip ∨ f.rule = .optNull) :
    f.get none = f.get (some .null) := by
  rcases h with h | h <;> simp [Field.get, h]

theorem default_is_skipped (f : Field) (d v : J) (h : f.rule = .dfltSkip d) :
    f.put v = [] ↔ J.beq v d = true := by
  simp [Field.put, h]

theorem unknown_keys_ignored (fs : List Field) (obj : List (String × J)) (k : String) (v : J)
    (h : k ∉ fs.map (·.key)) : decodeFields fs ((k, v) :: obj) = decodeFields fs obj := by
  apply decodeFields_congr
  intro f hf
  have : k ≠ f.key := fun e => h (e ▸ List.mem_map.2 ⟨f, hf, rfl⟩)
  simp [lookup, this]

theorem required_missing (f : Field) (h : f.rule = .req) : f.get none = none := by
  simp [Field.get, h]

/-! ### the untagged alternative of material properties: told apart by a required key -/

/-- `#[serde(untagged)]` with two alternatives: the first that decodes -/
def decodeEither (a b : List Field) (obj : List (String × J)) : Option (Bool × List J) :=
  match decodeFields a obj with
  | some v => some (true, v)
  | none => (decodeFields b obj).map (fun v => (false, v))

/-- the second alternative is never mistaken for the first when the first has a required key that the
second never writes -/
theorem untagged_second (a b : List Field) (vs : List J) (hlen : vs.length = b.length)
    (hk : (b.map (·.key)).Nodup) (f : Field) (hf : f ∈ a) (hreq : f.rule = .req)
    (hnot : f.key ∉ b.map (·.key)) :
    decodeEither a b (encodeFields b vs) = some (false, vs) := by
  have hnone : decodeFields a (encodeFields b vs) = none :=
    mapM_eq_none hf (by rw [lookup_encode_none b vs hnot, required_missing f hreq])
  rw [decodeEither, hnone, roundtrip b vs hlen hk]
  rfl

theorem untagged_first (a b : List Field) (vs : List J) (hlen : vs.length = a.length)
    (hk : (a.map (·.key)).Nodup) : decodeEither a b (encodeFields a vs) = some (true, vs) := by
  unfold decodeEither
  rw [roundtrip a vs hlen hk]

end Cte.C04
