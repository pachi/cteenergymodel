/-
C14 — Indicator computation is total: never crashes or hangs, finite on sane models.
The model of the indicator pipeline is a total function by construction (every lookup is an
`Option`, every fold is structural); the theorems here say that each division it performs is
guarded, or has a non-zero denominator under the sanity conditions.  An `NV` is a value with a flag `nf`, raised when a
division on the way to it failed; `hb : F.bias = 0`: no rounding bias (`Model/Fns.lean`: ±1 only in the correspondence check).
-/
import Cte.Model.Schedules
import Cte.Lemmas.Energy
import Cte.Lemmas.Round
import Cte.Props.C09
import Cte.Lemmas.Num
namespace Cte.C14

theorem uExterior_denominator_pos (t : TiltC) (r : Rat) (h : 0 ≤ r) : 0 < r + rsiOf t + RSE :=
  uExteriorRaw_den_pos t h

theorem partition_denominator_pos (tc nc : Bool) (t : TiltC) (r : Rat) (h : 0 ≤ r) :
    0 < r + 2 * partitionRsi tc nc t :=
  add_pos_of_nonneg_of_pos h (mul_pos two_pos (partitionRsi_pos tc nc t))

/-- one layer, not the stack -/
theorem layerResistance_nonneg (db : ConsDb) (l : Layer) (r : Rat) (he : 0 ≤ l.e)
    (hm : ∀ mat, db.getMaterial l.material = some mat → ∀ rr vd, mat.properties = .resistance rr vd → 0 ≤ rr)
    (h : layerResistance db l = some r) : 0 ≤ r := by
  obtain ⟨mat, hmat, ⟨k, _, _, _, _, hk, rfl⟩ | ⟨vd, hp⟩⟩ := layerResistance_eq_some_iff.1 h
  · exact div_nonneg he hk.le
  · exact hm mat hmat r vd hp

/-- the model never raises `nf` in this arm, whatever the resistance; that its division is sound for r ≥ 0 is
`uExterior_denominator_pos` -/
theorem uExterior_finite (F : Fns) (w : Wall) (m : Model) (c : WallCons) (r : Rat)
    (hbd : w.bounds = .exterior ∨ w.bounds = .adiabatic)
    (hc : m.cons.getWallCons w.cons = some c) (hr : c.resistance m.cons = some r) :
    ∃ u, w.uValue F m = some u ∧ u.nf = false :=
  ⟨_, by rw [Wall.uValue_air hbd, Wall.resOf_eq_some_iff.2 ⟨c, hc, hr⟩]; rfl, rfl⟩

/-! ## aggregates: every division is guarded

Each quotient is by definition an `if` on the guard stated, hence `if_pos` / `if_neg`. -/

theorem k_guarded (walls : List WallP) (wins : List WinP) (tbs : List ThermalBridge) :
    (kData walls wins tbs).k = 0 ∨ (1 / 100 ≤ (kData walls wins tbs).a ∧
      (kData walls wins tbs).k = (kData walls wins tbs).au / (kData walls wins tbs).a) :=
  (lt_or_ge (kData walls wins tbs).a (1 / 100)).imp (fun h => if_pos h) fun h => ⟨h, if_neg h.not_gt⟩

theorem mean_guarded (e : KElem) (v : Rat) (h : e.withMean.uMean = some v) (h0 : e.uMean = none) :
    1 / 1000 < e.a ∧ v = e.au / e.a := by
  unfold KElem.withMean at h
  split at h
  next ha => exact ⟨ha, (Option.some.inj h).symm⟩
  · rw [h0] at h; cases h

/-- only the volume guard of the reference value; the blower-door branch's guard on the wall area is not stated -/
theorem n50_guarded (walls : List WallP) (wins : List WinP) (wc : List WinConsP) (vol cO : Rat) (test : Option Rat) :
    (n50Data walls wins wc vol cO test).n50Ref = 0 ∨ 1 / 1000 < vol :=
  (le_or_gt vol (1 / 1000)).imp_left (C09.n50_zero_volume walls wins wc vol cO test)

/-- of the four means only g is stated; all go through `guardedMean` -/
theorem qsol_guarded (wins : List WinP) (wc : List WinConsP) (rad : Orient → Option Rat) (aRef : Rat) :
    let q := qSolJul wins wc rad aRef
    (q.q = 0 ∨ 0 < aRef) ∧ (q.gMean = q.gSum ∨ 0 < q.aWp) :=
  ⟨(le_or_gt aRef 0).imp_left fun h => if_neg h.not_gt, (le_or_gt _ 0).imp_left fun h => if_neg h.not_gt⟩

theorem vent_finite (n : Option Rat) (vol : Rat) (h : vol ≠ 0) : ∃ r, ventOf n vol = .fin r := by
  cases n with
  | none => exact ⟨0, rfl⟩
  | some v => exact ⟨_, if_neg h⟩

theorem compactness_guarded (F : Fns) (m : Model) :
    (m.globalProps F).compactness = 0 ∨ (m.globalProps F).exposedArea ≠ 0 :=
  (eq_or_ne (m.globalProps F).exposedArea 0).imp_left fun h => if_pos h

/-! ## schedules: what a failed lookup yields -/

theorem yearAsDays_missing (db : SchedulesDb) (id : Id) (h : db.getYear id = none) : yearAsDays db id = [] := by
  simp [yearAsDays, h]

theorem missing_day_no_hours (m : Model) (ids : List Id) (h : ∀ i ∈ ids, m.dayProps.find? (·.id = i) = none) :
    dayHoursInUse m ids = 0 := by
  have : (ids.eraseDups).filterMap (fun i => m.dayProps.find? (·.id = i)) = [] :=
    List.filterMap_eq_nil_iff.2 fun i hi => h i (List.mem_eraseDups.1 hi)
  -- the fold over no day leaves the 24 hours unoccupied
  rw [dayHoursInUse, this]
  rfl

/-- `bp = 0` is what the code uses for a null-area slab (before the repair F-C14b the term 2ψ/B' divided by it) -/
theorem uGndSlab_finite (F : Fns) (hpi : 0 < F.pi) (z dt bp psi : Rat) (hB : 0 < dt + z / 2) (hbp : 0 ≤ bp) :
    (uGndSlab F z dt bp psi).nf = false := by
  have h2 : 0 < F.pi * bp + (dt + z / 2) := add_pos_of_nonneg_of_pos (mul_nonneg hpi.le hbp) hB
  have h3 : 0 < 457 / 1000 * bp + (dt + z / 2) := add_pos_of_nonneg_of_pos (mul_nonneg (by norm_num) hbp) hB
  simp only [uGndSlab, hB.ne', h2.ne', h3.ne', decide_false, Bool.or_false, Bool.and_false]

/-- each term is at least 0.3 + λ(Rsi + Rse) times a positive area -/
theorem slabDt_finite (s : Space) (walls : List Wall) (db : ConsDb) (dt : NV)
    (harea : ∀ w ∈ walls, 0 < w.area)
    (hres : ∀ w ∈ walls, ∀ c r, db.getWallCons w.cons = some c → c.resistance db = some r → 0 ≤ r)
    (h : s.slabDt walls db = some dt) : dt.nf = false ∧ 0 < dt.v := by
  obtain ⟨hne, rfl⟩ := Space.slabDt_eq_some_iff.1 h
  have hA := rsum_map_pos hne fun w hw => harea w (Space.mem_of_mem_groundSlabs hw)
  refine ⟨decide_eq_false hA.ne', div_pos (rsum_map_pos hne fun w hw => ?_) hA⟩
  have hw := Space.mem_of_mem_groundSlabs hw
  exact mul_pos (harea w hw) (Wall.slabDt_pos (hres w hw))

/-- both logarithms get arguments ≥ 1 -/
theorem slabPsi_finite (F : Fns) (m : Model) (dt : Rat) (hdt : 0 < dt)
    (hD : 0 ≤ m.info.dPerimInsulation) (hR : 0 ≤ m.info.rnPerimInsulation) : (slabPsi F m dt).nf = false := by
  have h2 : 0 < dt + m.info.rnPerimInsulation * (LAMBDA_GND - LAMBDA_INS) :=
    add_pos_of_pos_of_nonneg hdt (mul_nonneg hR (by decide +kernel))
  have h3 := add_pos_of_pos_of_nonneg one_pos (div_nonneg hD hdt.le)
  have h4 := add_pos_of_pos_of_nonneg one_pos (div_nonneg hD h2.le)
  simp only [slabPsi, hdt.ne', h2.ne', h3.not_ge, h4.not_ge, decide_false, Bool.or_false]

/-- the net height divides only when the wall rises above the ground, and then exceeds the depth -/
theorem uGndWall_finite (F : Fns) (z uw dt hNet : Rat) (huw : 0 < uw) (hz : 0 ≤ z) (hdt : 0 < dt) :
    (uGndWall F z uw dt hNet).nf = false := by
  have h2 : 0 < rmin (LAMBDA_GND / uw) dt + z :=
    add_pos_of_pos_of_nonneg (rmin_eq_min .. ▸ lt_min (div_pos (by decide +kernel) huw) hdt) hz
  simp only [uGndWall, apply_ite NV.nf, huw.ne', h2.ne', decide_false, Bool.or_false, Bool.false_or]
  by_cases hgt : hNet > z
  · simp only [(hz.trans_lt hgt).ne', decide_false, ite_self]
  · simp only [hgt, if_false, rabs_zero_lt_f32Eps, if_true, ite_self]

/-- the perimeter it divides by is clamped at 1 cm -/
theorem slabCharDim_nonneg (F : Fns) (hb : F.bias = 0) (s : Space) (walls : List Wall) (spaces : List Space) (d : Rat)
    (h : s.slabCharDim F walls spaces = some d) : 0 ≤ d := by
  unfold Space.slabCharDim at h
  dsimp only at h
  split at h
  · cases h
  · split at h
    · cases h; exact le_rfl
    next hg =>
      cases h
      rw [Fns.r2_unbiased F hb]
      exact round2_nonneg (div_nonneg ((by norm_num : (0 : Rat) ≤ 1 / 1000).trans (not_lt.1 hg))
        (mul_nonneg (by norm_num) (rmax_eq_max .. ▸ le_max_of_le_right (by norm_num))))

theorem gndU_finite (F : Fns) (hpi : 0 < F.pi) {t : TiltC} {uw cd hNet z : Rat} {dt psi : NV} (huw : 0 < uw)
    (hdt : dt.nf = false ∧ 0 < dt.v) (hpsi : psi.nf = false) (hcd : 0 ≤ cd) (hz : 0 ≤ z) :
    (gndU F t uw dt psi cd hNet z).nf = false := by
  cases t with
  | top => rfl
  | bottom =>
    have hB : 0 < dt.v + z / 2 := add_pos_of_pos_of_nonneg hdt.2 (div_nonneg hz zero_le_two)
    simp only [gndU, uGndSlab_finite F hpi z dt.v cd psi.v hB hcd, hdt.1, hpsi, Bool.or_false]
  | side => simp only [gndU, uGndWall_finite F z uw dt.v hNet huw hz hdt.2, hdt.1, Bool.false_and, Bool.or_false]

/-- GROUND arm. `huw`: an air-contact U rounding to 0 makes `LAMBDA_GND / uw` a failed division; the depth is
`max(−z, 0)`, so nothing is asked of the level of the space -/
theorem ground_uValue_finite (F : Fns) (hb : F.bias = 0) (hpi : 0 < F.pi) (w : Wall) (m : Model) (c : WallCons) (r : Rat) (u : NV)
    (hbd : w.bounds = .ground)
    (hc : m.cons.getWallCons w.cons = some c) (hr : c.resistance m.cons = some r)
    (huw : 0 < F.r2 (uExteriorRaw w.tiltC r))
    (harea : ∀ x ∈ m.walls, 0 < x.area)
    (hres : ∀ x ∈ m.walls, ∀ c r, m.cons.getWallCons x.cons = some c → c.resistance m.cons = some r → 0 ≤ r)
    (hD : 0 ≤ m.info.dPerimInsulation) (hR : 0 ≤ m.info.rnPerimInsulation)
    (h : w.uValue F m = some u) : u.nf = false := by
  rw [Wall.uValue_of_not_interior (by simp [hbd]), Wall.uNonInterior_ground hbd,
    Wall.resOf_eq_some_iff.2 ⟨c, hc, hr⟩, Option.bind_some] at h
  obtain ⟨sp, -, h⟩ := Option.bind_eq_some_iff.1 h
  obtain ⟨dt, hs, rfl⟩ := Option.map_eq_some_iff.1 h
  -- `u` is now `gndU …` of the resolved space `sp` and its equivalent thickness `dt`
  have hdt := slabDt_finite sp m.walls m.cons dt harea hres hs
  exact gndU_finite F hpi huw hdt (slabPsi_finite F m dt.v hdt.2 hD hR)
    (getD_zero_nonneg (slabCharDim_nonneg F hb sp m.walls m.spaces)) (rmax_eq_max .. ▸ le_max_right _ _)

/-- partitions towards an unconditioned space (`u_value_interior_cond_uncond`) -/
theorem uCondUncond_finite (F : Fns) (ai rf ua vol n : Rat) (hai : 0 < ai) (hrf : 0 < rf) (hua : 0 ≤ ua)
    (hvol : 0 ≤ vol) (hn : 0 ≤ n) : (uCondUncond F ai rf ua vol (.fin n)).nf = false := by
  rcases (add_nonneg hua (mul_nonneg (by norm_num) (mul_nonneg hvol hn)) :
      0 ≤ ua + 33 / 100 * (vol * n)).eq_or_lt with h0 | hpos
  · -- loss coefficient 0: U = 0 in the code (R_u = +inf), flagged only when A_i = 0 too
    simp only [uCondUncond, ← h0, hai.ne', if_true, if_false]
  · rw [uCondUncond_fin hpos.ne']
    exact decide_eq_false (add_pos_of_pos_of_nonneg hrf (div_nonneg hai.le hpos.le)).ne'

/-- not used below: `UncondOK` asks for a finite non-negative rate directly -/
theorem ventOf_fin_nonneg (n : Option Rat) (vol : Rat) (hvol : 0 < vol) (hn : ∀ x, n = some x → 0 ≤ x) :
    ∃ r, ventOf n vol = .fin r ∧ 0 ≤ r := by
  cases n with
  | none => exact ⟨0, rfl, le_refl _⟩
  | some x =>
    exact ⟨_, if_neg hvol.ne', div_nonneg (mul_nonneg (by norm_num) (hn x rfl)) hvol.le⟩

theorem uaExt_nf (F : Fns) (m : Model) (s : Space)
    (h : ∀ w ∈ m.walls, ∀ u, w.uNonInterior F m = some u → u.nf = false) : (s.uaExt F m).nf = false := by
  unfold Space.uaExt
  refine List.foldlRecOn (motive := fun acc : NV => acc.nf = false) _ _ rfl fun acc hacc w hw => ?_
  cases hu : w.uNonInterior F m with
  | none => exact hacc
  | some u => simp only [hacc, h w (mem_wallsOf (List.mem_filter.1 hw).1) u hu, Bool.or_false]

/-- what the partition formula needs from the unconditioned side -/
def UncondOK (F : Fns) (m : Model) (s : Space) : Prop :=
  (s.uaExt F m).nf = false ∧ 0 ≤ (s.uaExt F m).v ∧ 0 ≤ s.area m.walls * s.heightNet F m.walls m.cons ∧
  ∃ n, (match s.nV with | some n => Vent.fin n | none => m.globalVentilationU F) = .fin n ∧ 0 ≤ n

/-- the leaf of the INTERIOR arm with a neighbour; `h` is what `UncondOK` says of the unconditioned side -/
theorem partU_finite (F : Fns) {ai rf vol : Rat} {tc nc : Bool} {ua : NV} {nv : Vent} (hai : 0 < ai) (hrf : 0 < rf)
    (h : tc ≠ nc → ua.nf = false ∧ 0 ≤ ua.v ∧ 0 ≤ vol ∧ ∃ n, nv = .fin n ∧ 0 ≤ n) :
    (partU F ai rf tc nc ua vol nv).nf = false := by
  unfold partU
  split
  · exact decide_eq_false hrf.ne'  -- both sides conditioned alike
  next hne =>
    obtain ⟨h1, h2, h3, n, rfl, h5⟩ := h hne
    exact Bool.or_eq_false_iff.2 ⟨uCondUncond_finite F _ _ _ _ n hai hrf h2 h3 h5, h1⟩

/-- INTERIOR arm; `hok` is needed only when exactly one side is conditioned -/
theorem partition_uValue_finite (F : Fns) (w : Wall) (m : Model) (c : WallCons) (r : Rat) (u : NV)
    (hbd : w.bounds = .interior) (harea : 0 < w.area)
    (hc : m.cons.getWallCons w.cons = some c) (hr : c.resistance m.cons = some r) (hr0 : 0 ≤ r)
    (hok : ∀ s ∈ m.spaces, UncondOK F m s)
    (h : w.uValue F m = some u) : u.nf = false := by
  have hq := Wall.resOf_eq_some_iff.2 ⟨c, hc, hr⟩
  cases hn : w.nextTo with
  | none =>
    rw [Wall.uValue_interior_alone hbd hn, hq, Option.bind_some] at h
    obtain ⟨-, -, rfl⟩ := Option.map_eq_some_iff.1 h
    exact decide_eq_false (add_pos_of_nonneg_of_pos hr0 (mul_pos two_pos (rsiOf_pos w.tiltC))).ne'
  | some nid =>
    rw [Wall.uValue_interior_next hbd hn, hq, Option.bind_some] at h
    obtain ⟨sp, hsp, h⟩ := Option.bind_eq_some_iff.1 h
    obtain ⟨nx, hnx, rfl⟩ := Option.map_eq_some_iff.1 h
    -- the unconditioned side, whichever it is, is a space of the model
    exact partU_finite F harea (partition_denominator_pos _ _ w.tiltC r hr0) fun _ => hok _ (by
      split
      exacts [List.mem_of_find?_eq_some hnx, List.mem_of_find?_eq_some hsp])

/-! ## a buried room: both ground arms evaluate to a finite U; its side wall, with r = 1/5 put in by hand, meets the
hypotheses of `ground_uValue_finite` but for `hres` (the whole test on this room: the example of C14Sane) -/

def exDb : ConsDb :=
  { wallcons := [{ id := "c", absorptance := 0.6, layers := [{ material := "m1", e := 0.2 }] }],
    materials := [{ id := "m1", properties := .detailed 1 1000 1000 none }] }
def exSlab : Wall :=
  { id := "f", bounds := .ground, cons := "c", space := "s",
    geometry := { tilt := 180, azimuth := 0, polygon := [⟨0, 0⟩, ⟨4, 0⟩, ⟨4, 5⟩, ⟨0, 5⟩] } }
def exSide : Wall :=
  { id := "w", bounds := .ground, cons := "c", space := "s",
    geometry := { tilt := 90, azimuth := 0, polygon := [⟨0, 0⟩, ⟨4, 0⟩, ⟨4, 3⟩, ⟨0, 3⟩] } }
def exModel : Model :=
  { Model.dflt with cons := exDb, spaces := [{ id := "s", height := 3, z := -2 }], walls := [exSlab, exSide] }

example : ((exSide.uValue Fns.approx exModel).map (·.nf), (exSlab.uValue Fns.approx exModel).map (·.nf)) = (some false, some false) := by
  decide +kernel

example : (∀ x ∈ exModel.walls, 0 < x.area) ∧ 0 ≤ exModel.info.dPerimInsulation ∧ 0 ≤ exModel.info.rnPerimInsulation ∧
    0 < Fns.approx.r2 (uExteriorRaw exSide.tiltC (1 / 5)) := by
  decide +kernel

end Cte.C14
