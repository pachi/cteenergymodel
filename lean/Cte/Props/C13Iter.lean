/-
C13 — the iterative construction of the code is the recursive `build`: `generate_node_list` (explicit stack, id counter)
followed by `build_from_node_list` (two id-keyed maps, elements popped from the end) returns `Bvh.build` without reaching an
`unwrap()` on `None`; with `walk_eq_exhaustive` the code path `BVH::build(..).intersects(ray)` equals testing every element.
The two phases meet in `pre t`, the numbered pre-order node list of a tree: the first emits `pre (build o k es)` (`gen_pre`), the
second takes `pre t` back to `t` for every tree `t`, its boxes computed anew (`reconstruct_pre`).
-/
import Cte.Model.BvhIter
import Cte.Props.C13
namespace Cte.Bvh

variable {E Box Ray : Type}

/-- the node list of a tree in pre-order as `generate_node_list` numbers it (`c`: the tree's own id, `s`: which
child it is of `p`, its parent's id, `id`: the counter on entry), and the counter after it -/
def pre : Tree E Box → Nat → Side → Option Nat → Nat → List (TElem E) × Nat
  | .leaf _ es, c, s, p, id => ([⟨c, true, s, p, some es⟩], id)
  | .node _ l r, c, s, p, id =>
    let a := pre l (id + 1) .L (some c) (id + 2)
    let b := pre r (id + 2) .R (some c) a.2
    (⟨c, false, s, p, none⟩ :: (a.1 ++ b.1), b.2)

theorem partition_degenerate {p : E → Bool} {es : List E} (h : (es.partition p).1 = [] ∨ (es.partition p).2 = []) :
    (es.partition p).1 ++ (es.partition p).2 = es := by
  simp only [List.partition_eq_filter_filter] at *
  rcases h with h | h <;> rw [h]
  · exact List.filter_eq_self.mpr fun a ha => by simpa using List.filter_eq_nil_iff.mp h a ha
  · exact (List.append_nil _).trans (List.filter_eq_self.mpr fun a ha => by simpa using List.filter_eq_nil_iff.mp h a ha)

/-- one pending entry is one subtree: from a stack with `(c, s, p, es)` on top the loop emits the node list of `build o k es`,
advances the counter as `pre` says and goes on with the rest -/
theorem gen_pre (o : Ops E Box Ray) (k : Nat) (c : Nat) (s : Side) (p : Option Nat) (es : List E) (id : Nat)
    (rest : List (Pend E)) (out : List (TElem E)) :
    genLoop o k (⟨c, s, p, es⟩ :: rest) id out =
      genLoop o k rest (pre (build o k es) c s p id).2 (out ++ (pre (build o k es) c s p id).1) := by
  fun_induction build o k es generalizing c s p id rest out with
  | case1 es h =>
    rw [genLoop]
    simp only [Nat.not_lt.mpr h, if_false, pre]
  | case2 es h lr hd =>
    simp only [lr] at hd
    rw [genLoop]
    simp only [Nat.lt_of_not_le h, if_true, hd, dite_true, partition_degenerate hd, pre]
  | case3 es h lr hd l r ihl ihr =>
    simp only [lr] at hd ihl ihr
    rw [genLoop]
    simp only [Nat.lt_of_not_le h, if_true, hd, dite_false]
    rw [ihl, ihr]
    simp [pre, l, r, lr, List.append_assoc]

theorem generate_eq_pre (o : Ops E Box Ray) (k : Nat) (es : List E) :
    generate o k es = (pre (build o k es) 0 .L none 0).1 := by
  unfold generate
  rw [gen_pre]
  simp [genLoop]

def mkeys {V : Type} (m : List (Nat × V)) : List Nat := m.map (·.1)

theorem mget_cons_self {V : Type} (k : Nat) (v : V) (m : List (Nat × V)) : mget k ((k, v) :: m) = some v := by
  simp [mget]

theorem mget_append {V : Type} {k : Nat} {m l : List (Nat × V)} (h : k ∉ mkeys m) : mget k (m ++ l) = mget k l := by
  induction m with
  | nil => rfl
  | cons a t ih =>
    simp only [mkeys, List.map_cons, List.mem_cons, not_or] at h
    simp [mget, Ne.symm h.1, ih h.2]

theorem mset_append {V : Type} {k : Nat} {v : V} {m l : List (Nat × V)} (h : k ∉ mkeys m) :
    mset k v (m ++ l) = m ++ mset k v l := by
  induction m with
  | nil => rfl
  | cons a t ih =>
    simp only [mkeys, List.map_cons, List.mem_cons, not_or] at h
    simp [mset, Ne.symm h.1, ih h.2]

theorem mdel_append {V : Type} {k : Nat} {m l : List (Nat × V)} (h : k ∉ mkeys m) : mdel k (m ++ l) = m ++ mdel k l := by
  unfold mdel
  rw [List.filter_append, List.filter_eq_self.mpr]
  intro x hx
  have : x.1 ≠ k := fun e => h (e ▸ List.mem_map_of_mem hx)
  simpa using this

theorem mget_absent {V : Type} {k : Nat} {m : List (Nat × V)} (h : k ∉ mkeys m) : mget k m = none := by
  simpa [mget] using mget_append (l := []) h

theorem mset_absent {V : Type} {k : Nat} {v : V} {m : List (Nat × V)} (h : k ∉ mkeys m) : mset k v m = m ++ [(k, v)] := by
  simpa [mset] using mset_append (v := v) (l := []) h

theorem mset_append_self {V : Type} (k : Nat) (v w : V) (m : List (Nat × V)) (h : k ∉ mkeys m) :
    mset k w (m ++ [(k, v)]) = m ++ [(k, w)] := by
  simp [mset_append h, mset]

theorem recRun_append (o : Ops E Box Ray) (l1 l2 : List (TElem E)) (S : RState E Box) :
    recRun o (l1 ++ l2) S = (recRun o l1 S).bind (recRun o l2) := by
  induction l1 generalizing S with
  | nil => rfl
  | cons e t ih =>
    simp only [List.cons_append, recRun]
    cases recStep o S e with
    | none => rfl
    | some S' => exact ih S'

/-- the first child to arrive opens the parent's slot, the second moves the finished node to `completed` -/
theorem setSlot_first {o : Ops E Box Ray} {S : RState E Box} {c : Nat} {t : Tree E Box} (hp : c ∉ mkeys S.pending) :
    setSlot o S c .R t = ⟨S.pending ++ [(c, ⟨none, some t⟩)], S.completed⟩ := by
  simp [setSlot, mget_absent hp, mset_absent hp]

theorem setSlot_second {o : Ops E Box Ray} {S : RState E Box} {c : Nat} {tL tR : Tree E Box}
    (hp : c ∉ mkeys S.pending) (hc : c ∉ mkeys S.completed) :
    setSlot o ⟨S.pending ++ [(c, ⟨none, some tR⟩)], S.completed⟩ c .L tL =
      ⟨S.pending, S.completed ++ [(c, .node (o.join tL.box tR.box) tL tR)]⟩ := by
  simp only [setSlot, mget_append hp, mdel_append hp, mset_absent hc]
  simp [mget, mdel]

/-- ids grow along the pre-order: every key already in the maps is smaller than the ids the subtree at `c` will use -/
def Fresh (S : RState E Box) (c : Nat) : Prop :=
  (∀ x ∈ mkeys S.pending, x < c) ∧ (∀ x ∈ mkeys S.completed, x < c)

theorem Fresh.mono {S : RState E Box} {c c' : Nat} (h : Fresh S c) (hc : c ≤ c') : Fresh S c' :=
  ⟨fun x hx => Nat.lt_of_lt_of_le (h.1 x hx) hc, fun x hx => Nat.lt_of_lt_of_le (h.2 x hx) hc⟩

theorem Fresh.pending_snoc {S : RState E Box} {c c' : Nat} {v : PNode E Box} (h : Fresh S c') (hc : c < c') :
    Fresh ⟨S.pending ++ [(c, v)], S.completed⟩ c' := by
  refine ⟨fun x hx => ?_, h.2⟩
  simp only [mkeys, List.map_append, List.map_cons, List.map_nil, List.mem_append, List.mem_singleton] at hx
  rcases hx with hx | rfl
  exacts [h.1 x hx, hc]

theorem fresh_empty (c : Nat) : Fresh ({} : RState E Box) c := ⟨by simp [mkeys], by simp [mkeys]⟩

theorem Fresh.absent {S : RState E Box} {c : Nat} (h : Fresh S c) : c ∉ mkeys S.pending ∧ c ∉ mkeys S.completed :=
  ⟨fun m => Nat.lt_irrefl _ (h.1 c m), fun m => Nat.lt_irrefl _ (h.2 c m)⟩

theorem pre_counter_mono (t : Tree E Box) (c : Nat) (s : Side) (p : Option Nat) (id : Nat) : id ≤ (pre t c s p id).2 := by
  induction t generalizing c s p id with
  | leaf => exact Nat.le_refl _
  | node b l r ihl ihr => exact Nat.le_trans (Nat.le_trans (Nat.le_add_right id 2) (ihl ..)) (ihr ..)

/-- the tree with every box computed from the leaves, as `build_from_node_list` computes them; `build` has them so already -/
def rebox (o : Ops E Box Ray) : Tree E Box → Tree E Box
  | .leaf _ es => .leaf (boxOf o es) es
  | .node _ l r => .node (o.join (rebox o l).box (rebox o r).box) (rebox o l) (rebox o r)

/-- the maps once everything of the subtree `t` with id `c` but its own element (the first of `pre t`, popped last) has been
popped, starting from `S`: a leaf has left no trace, a node waits finished under its id -/
def below (o : Ops E Box Ray) (S : RState E Box) (c : Nat) : Tree E Box → RState E Box
  | .leaf _ _ => S
  | t => ⟨S.pending, S.completed ++ [(c, rebox o t)]⟩

/-- its own element then attaches the subtree to the parent's slot -/
theorem recon_own {o : Ops E Box Ray} {t : Tree E Box} {c : Nat} {s : Side} {q id : Nat} {S : RState E Box}
    (hF : Fresh S c) (h : recRun o (pre t c s (some q) id).1.tail.reverse S = some (below o S c t)) :
    recRun o (pre t c s (some q) id).1.reverse S = some (setSlot o S q s (rebox o t)) := by
  cases t with
  | leaf b es => simp [pre, recRun, recStep, rebox]
  | node b l r =>
    have hcc := hF.absent.2
    simp only [pre, List.tail_cons] at h
    simp only [pre, List.reverse_cons, recRun_append, h, Option.bind_some, below]
    simp only [recRun, recStep, mget_append hcc, mdel_append hcc]
    simp [mget, mdel]

/-- popping a subtree's elements (reverse pre-order) unwraps no `None`, touches no other entry of the maps and, for a node,
leaves it finished under its id: the right child is popped first, into `S`; then the left one, into `S` with `c`'s slot half filled -/
theorem recon_below (o : Ops E Box Ray) (t : Tree E Box) (c : Nat) (s : Side) (p : Option Nat) (id : Nat) (S : RState E Box)
    (hF : Fresh S c) (hc : c ≤ id) :
    recRun o (pre t c s p id).1.tail.reverse S = some (below o S c t) := by
  induction t generalizing c s p id S with
  | leaf b es => rfl
  | node b l r ihl ihr =>
    obtain ⟨hcp, hcc⟩ := hF.absent
    have hF2 : Fresh S (id + 2) := hF.mono (Nat.le_add_right_of_le hc)
    have hF1 : Fresh ⟨S.pending ++ [(c, ⟨none, some (rebox o r)⟩)], S.completed⟩ (id + 1) :=
      (hF.mono (Nat.le_add_right_of_le hc)).pending_snoc (Nat.lt_add_one_of_le hc)
    have hR := recon_own hF2 (ihr (id + 2) .R (some c) _ S hF2 (pre_counter_mono l (id + 1) .L (some c) (id + 2)))
    have hL := recon_own hF1 (ihl (id + 1) .L (some c) (id + 2) _ hF1 (Nat.le_succ _))
    simp only [pre, List.tail_cons, List.reverse_append, recRun_append]
    rw [hR, Option.bind_some, setSlot_first hcp, hL, setSlot_second hcp hcc]
    rfl

/-- `build_from_node_list` undoes the pre-order numbering of any tree; the root's own element is never popped -/
theorem reconstruct_pre (o : Ops E Box Ray) (t : Tree E Box) : reconstruct o (pre t 0 .L none 0).1 = some (some (rebox o t)) := by
  cases t with
  | leaf b es => rfl
  | node b l r =>
    have h := recon_below o (.node b l r) 0 .L none 0 {} (fresh_empty 0) (Nat.le_refl 0)
    simp only [pre, List.tail_cons] at h
    simp only [reconstruct, pre, h]
    rfl

theorem rebox_build (o : Ops E Box Ray) (k : Nat) (es : List E) : rebox o (build o k es) = build o k es := by
  fun_induction build o k es with
  | case1 => rfl
  | case2 => rfl
  | case3 es h lr hd l r ihl ihr => simp only [rebox, l, r, ihl, ihr]

theorem reconstruct_generate (o : Ops E Box Ray) (k : Nat) (es : List E) :
    reconstruct o (generate o k es) = some (some (build o k es)) := by
  rw [generate_eq_pre, reconstruct_pre, rebox_build]

/-- the code path as written never panics and equals the exhaustive test -/
theorem code_path_eq_exhaustive (o : Ops E Box Ray) (L : Laws o) (k : Nat) (r : Ray) (es : List E) :
    codeIntersects o k r es = some (es.any (o.hit r)) := by
  unfold codeIntersects
  rw [reconstruct_generate]
  simp only [Cte.C13.walk_eq_exhaustive o L k r es]

end Cte.Bvh
