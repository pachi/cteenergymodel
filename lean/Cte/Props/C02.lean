/-
  C02 — Converted models are referentially closed, or conversion fails with an error.

  The theorems are about `Conv.convert`, the skeleton of `Model::try_from`.

  `convert b = .ok m` is read collection by collection (`Converted`), a collection element by element, an element by
  its conversion: `…_eq_ok_iff` lemmas are equivalences, `…_of_eq_ok` draw from a success what closure needs.
-/
import Cte.Model.Convert

namespace Cte.Props.C02
open Cte.Conv

theorem has_iff {l : List Name} {n : Name} : has l n = true ↔ n ∈ l := by
  simp [has]

theorem dedup_cons (a : Name) (t : List Name) : dedup (a :: t) = (dedup t).insert a := rfl

theorem mem_dedup (l : List Name) (a : Name) : a ∈ dedup l ↔ a ∈ l := by
  induction l with
  | nil => rfl
  | cons x t ih => rw [dedup_cons, List.mem_insert_iff, ih, List.mem_cons]

theorem dedup_nodup (l : List Name) : (dedup l).Nodup := by
  induction l with
  | nil => exact .nil
  | cons a t ih =>
    rw [dedup_cons]
    by_cases h : a ∈ dedup t
    · rwa [List.insert_of_mem h]
    · rw [List.insert_of_not_mem h]; exact List.nodup_cons.2 ⟨h, ih⟩

/-! `mapM'` is the model's own `mapM` into `Except` (the model imports nothing); its lemmas say `mapMx` because the
audit of the checks cannot read a prime in a name.  They run parallel to `Cte/Lemmas/OptionMapM.lean`. -/

section mapMx
variable {α β γ : Type} {f : α → Except String β} {l t : List α} {a : α} {r : List β}

theorem mapMx_cons_eq_ok_iff :
    mapM' f (a :: t) = .ok r ↔ ∃ y r', f a = .ok y ∧ mapM' f t = .ok r' ∧ y :: r' = r := by
  rw [mapM']
  cases f a <;> cases mapM' f t <;> simp

theorem mapMx_eq_ok_iff : mapM' f l = .ok r ↔ l.map f = r.map .ok := by
  induction l generalizing r with
  | nil => cases r <;> simp [mapM']
  | cons a t ih => cases r <;> simp [mapMx_cons_eq_ok_iff, ih]

theorem mem_iff_of_mapMx_eq_ok (h : mapM' f l = .ok r) {y : β} : y ∈ r ↔ ∃ x ∈ l, f x = .ok y := by
  simpa using (congrArg (Except.ok y ∈ ·) (mapMx_eq_ok_iff.1 h)).symm

theorem forall_of_mapMx_eq_ok (h : mapM' f l = .ok r) {P : β → Prop} (hP : ∀ x ∈ l, ∀ y, f x = .ok y → P y) :
    ∀ y ∈ r, P y := fun y hy =>
  let ⟨x, hx, e⟩ := (mem_iff_of_mapMx_eq_ok h).1 hy; hP x hx y e

theorem ok_of_mem_of_mapMx_eq_ok (h : mapM' f l = .ok r) {x : α} (hx : x ∈ l) : ∃ y, f x = .ok y :=
  let ⟨y, _, e⟩ := List.mem_map.1 (mapMx_eq_ok_iff.1 h ▸ List.mem_map_of_mem (f := f) hx); ⟨y, e.symm⟩

theorem map_of_mapMx_eq_ok (h : mapM' f l = .ok r) {g : β → γ} {k : α → γ}
    (hk : ∀ x y, f x = .ok y → g y = k x) : r.map g = l.map k := by
  induction l generalizing r with
  | nil => cases h; rfl
  | cons a t ih =>
    obtain ⟨y, r', hy, ht, rfl⟩ := mapMx_cons_eq_ok_iff.1 h
    rw [List.map_cons, List.map_cons, hk a y hy, ih ht]

end mapMx

theorem error_of_not_ok {α : Type} {x : Except String α} (h : ∀ y, x ≠ .ok y) : ∃ e, x = .error e := by
  cases x with
  | error e => exact ⟨e, rfl⟩
  | ok y => exact absurd rfl (h y)

theorem guard_eq_ok_iff {α : Type} {c : Prop} [Decidable c] {e : String} {x : Except String α} {y : α} :
    (if c then .error e else x) = .ok y ↔ ¬c ∧ x = .ok y := by
  split <;> simp [*]

theorem guard_else_eq_ok_iff {α : Type} {c : Prop} [Decidable c] {e : String} {x : Except String α} {y : α} :
    (if c then x else .error e) = .ok y ↔ c ∧ x = .ok y := by
  split <;> simp [*]

/-! However a reference is resolved (`lookup` alone, after `need`, under `mapM'`), what comes out is a known name. -/

theorem mem_of_lookup_eq_ok {known : List Name} {what : String} {n x : Name} (h : lookup known what n = .ok x) :
    x ∈ known := by
  obtain ⟨hn, ⟨⟩⟩ := guard_else_eq_ok_iff.1 h
  exact has_iff.1 hn

theorem mem_of_need_lookup_eq_ok {o : Option Name} {known : List Name} {what : String} {x : Name}
    (h : (need o >>= lookup known what) = .ok x) : x ∈ known := by
  cases o with
  | none => cases h
  | some n => exact mem_of_lookup_eq_ok h

theorem mem_of_mapMx_lookup_eq_ok {known : List Name} {what : String} {ns rs : List Name}
    (h : mapM' (lookup known what) ns = .ok rs) : ∀ r ∈ rs, r ∈ known :=
  forall_of_mapMx_eq_ok h fun _ _ _ => mem_of_lookup_eq_ok

/-- the `match` is the one `closed` has for an optional reference, written again: applied as a term the lemma unifies
with it; `rw` and `simp` would not see it, each `match` being a constant of its own -/
theorem optRef_iff {o : Option Name} {l : List Name} :
    (match o with | some n => has l n | none => true) = true ↔ ∀ n, o = some n → n ∈ l := by
  cases o <;> simp [has_iff]

theorem convertSpace_eq_ok_iff {b : Bdl} {s : BSpace} {y : MSpace} : convertSpace b s = .ok y ↔
    s.spaceconds ∈ b.loads.map (·.key) ∧ s.systemconds ∈ b.thermostats.map (·.key) ∧
    { id := s.name, loads := some s.spaceconds, thermostat := some s.systemconds } = y := by
  simp only [convertSpace, guard_eq_ok_iff, Bool.not_eq_true', Bool.not_eq_false, has_iff, Except.ok.injEq]

theorem convertWindow_eq_ok_iff {b : Bdl} {w : BWindow} {y : MWindow} : convertWindow b w = .ok y ↔
    w.wall ∈ b.walls.map (·.name) ∧ { id := w.name, cons := w.cons, wall := w.wall } = y := by
  simp only [convertWindow, guard_eq_ok_iff, Bool.not_eq_true', Bool.not_eq_false, has_iff, Except.ok.injEq]

/-- the guards in the code's order: own name, construction, space, next-to space if named, geometry -/
theorem convertWall_eq_ok_iff {b : Bdl} {w : BWall} {y : MWall} : convertWall b w = .ok y ↔
    w.name ∈ b.walls.map (·.name) ∧ w.cons ∈ b.wallcons.map (·.key) ∧
    w.space ∈ b.spaces.map (·.name) ∧ (∀ n, w.nextto = some n → n ∈ b.spaces.map (·.name)) ∧
    wallGeomOk b w = true ∧ { id := w.name, cons := w.cons, space := w.space, nextTo := w.nextto } = y := by
  unfold convertWall
  cases w.nextto <;>
    simp only [guard_eq_ok_iff, guard_else_eq_ok_iff, Bool.not_eq_true', Bool.not_eq_false, has_iff, Except.ok.injEq,
      reduceCtorEq, false_imp_iff, implies_true, true_and, Option.some.injEq, forall_eq']

/-! The other conversions are read one way only.  `repeat' (split at h <;> try cases h)` follows the one path through
the definition that ends in `.ok`; it leaves, in the context, the equation of every lookup on that path: `‹_›`. -/

theorem convertYear_of_eq_ok {b : Bdl} {y : BYear} {m : MSched} (h : convertYear b y = .ok m) :
    m.id = y.name ∧ ∀ r ∈ m.refs, r ∈ b.weeks.map (·.name) := by
  simp only [convertYear] at h
  repeat' (split at h <;> try cases h)
  refine ⟨rfl, fun r hr => ?_⟩
  obtain ⟨p, hp, rfl⟩ := List.mem_map.1 hr
  exact mem_of_mapMx_lookup_eq_ok ‹_› p.1 (List.of_mem_zip hp).1

theorem convertWeek_of_eq_ok {b : Bdl} {w : BWeek} {m : MSched} (h : convertWeek b w = .ok m) :
    m.id = w.name ∧ ∀ r ∈ m.refs, r ∈ b.days := by
  unfold convertWeek at h
  repeat' (split at h <;> try cases h)
  · exact ⟨rfl, fun r hr => List.mem_singleton.1 hr ▸ mem_of_lookup_eq_ok ‹_›⟩
  · exact ⟨rfl, mem_of_mapMx_lookup_eq_ok ‹_›⟩

theorem convertLoads_of_eq_ok {b : Bdl} {l : BLoads} {m : MLoads} (h : convertLoads b l = .ok m) :
    m.id = l.key ∧ m.people ∈ b.years.map (·.name) ∧ m.equip ∈ b.years.map (·.name) ∧
    m.light ∈ b.years.map (·.name) := by
  simp only [convertLoads] at h
  repeat' (split at h <;> try cases h)
  exact ⟨rfl, mem_of_need_lookup_eq_ok ‹_›, mem_of_need_lookup_eq_ok ‹_›, mem_of_need_lookup_eq_ok ‹_›⟩

theorem convertThermo_of_eq_ok {b : Bdl} {t : BThermo} {m : MThermo} (h : convertThermo b t = .ok m) :
    m.id = t.key ∧ (∀ x, m.tmax = some x → x ∈ b.years.map (·.name)) ∧
    (∀ x, m.tmin = some x → x ∈ b.years.map (·.name)) := by
  simp only [convertThermo] at h
  repeat' (split at h <;> try cases h)
  · exact ⟨rfl, fun x hx => Option.some.inj hx ▸ mem_of_need_lookup_eq_ok ‹_›,
      fun x hx => Option.some.inj hx ▸ mem_of_need_lookup_eq_ok ‹_›⟩
  · exact ⟨rfl, fun _ hx => (nomatch hx), fun _ hx => (nomatch hx)⟩

/-- `cons_from_bdl`: the used constructions only, their layers, glazing and frame among what is kept -/
theorem consFromBdl_of_eq_ok {b : Bdl} {wc : List MWallCons} {wn : List MWinCons} {ms gs fs : List Name}
    (h : consFromBdl b = .ok (wc, wn, ms, gs, fs)) :
    wc.map (·.id) = dedup (b.walls.map (·.cons)) ∧ wn.map (·.id) = dedup (b.windows.map (·.cons)) ∧
    (∀ c ∈ wc, ∀ l ∈ c.layers, l ∈ ms) ∧ (∀ c ∈ wn, c.glass ∈ gs ∧ c.frame ∈ fs) := by
  simp only [consFromBdl] at h
  repeat' (split at h <;> try cases h)
  have hwc : mapM' _ (dedup (b.walls.map (·.cons))) = .ok wc := ‹_›
  have hwn : mapM' _ (dedup (b.windows.map (·.cons))) = .ok wn := ‹_›
  refine ⟨?_, ?_, fun c hc l hl => ?_, fun c hc => ?_⟩
  · refine (map_of_mapMx_eq_ok hwc (g := (·.id)) (k := id) fun x y e => ?_).trans (List.map_id _)
    repeat' (split at e <;> try cases e)
    rfl
  · refine (map_of_mapMx_eq_ok hwn (g := (·.id)) (k := id) fun x y e => ?_).trans (List.map_id _)
    repeat' (split at e <;> try cases e)
    rfl
  · obtain ⟨x, _, e⟩ := (mem_iff_of_mapMx_eq_ok hwc).1 hc
    repeat' (split at e <;> try cases e)
    exact List.mem_filter.2 ⟨mem_of_mapMx_lookup_eq_ok ‹_› l hl, has_iff.2 (List.mem_flatMap.2 ⟨_, hc, hl⟩)⟩
  · obtain ⟨x, _, e⟩ := (mem_iff_of_mapMx_eq_ok hwn).1 hc
    split at e <;>
      simp only [guard_eq_ok_iff, Bool.not_eq_true', Bool.not_eq_false, has_iff, Except.ok.injEq, reduceCtorEq] at e
    obtain ⟨hg, hf, rfl⟩ := e
    exact ⟨List.mem_filter.2 ⟨hg, has_iff.2 (List.mem_map.2 ⟨_, hc, rfl⟩)⟩,
      List.mem_filter.2 ⟨hf, has_iff.2 (List.mem_map.2 ⟨_, hc, rfl⟩)⟩⟩

structure Converted (b : Bdl) (m : Mdl) : Prop where
  cons : consFromBdl b = .ok (m.wallcons, m.wincons, m.materials, m.glasses, m.frames)
  spaces : mapM' (convertSpace b) b.spaces = .ok m.spaces
  walls : mapM' (convertWall b) b.walls = .ok m.walls
  windows : mapM' (convertWindow b) b.windows = .ok m.windows
  weeks : mapM' (convertWeek b) b.weeks = .ok m.weeks
  years : mapM' (convertYear b) b.years = .ok m.years
  loads : mapM' (convertLoads b) b.loads = .ok m.loads
  thermostats : mapM' (convertThermo b) b.thermostats = .ok m.thermostats
  days : m.days = b.days

theorem convert_eq_ok_iff {b : Bdl} {m : Mdl} : convert b = .ok m ↔ Converted b m := by
  constructor
  · intro h
    unfold convert at h
    repeat' (split at h <;> try cases h)
    constructor <;> first | assumption | rfl
  · rintro ⟨h1, h2, h3, h4, h5, h6, h7, h8, h9⟩
    unfold convert
    simp only [h1, h2, h3, h4, h5, h6, h7, h8, ← h9]

section ids
variable {b : Bdl} {m : Mdl} (hc : Converted b m)
include hc

theorem Converted.wall_ids : m.walls.map (·.id) = b.walls.map (·.name) :=
  map_of_mapMx_eq_ok hc.walls fun _ _ e => (convertWall_eq_ok_iff.1 e).2.2.2.2.2 ▸ rfl

theorem Converted.space_ids : m.spaces.map (·.id) = b.spaces.map (·.name) :=
  map_of_mapMx_eq_ok hc.spaces fun _ _ e => (convertSpace_eq_ok_iff.1 e).2.2 ▸ rfl

theorem Converted.load_ids : m.loads.map (·.id) = b.loads.map (·.key) :=
  map_of_mapMx_eq_ok hc.loads fun _ _ e => (convertLoads_of_eq_ok e).1

theorem Converted.thermostat_ids : m.thermostats.map (·.id) = b.thermostats.map (·.key) :=
  map_of_mapMx_eq_ok hc.thermostats fun _ _ e => (convertThermo_of_eq_ok e).1

theorem Converted.year_ids : m.years.map (·.id) = b.years.map (·.name) :=
  map_of_mapMx_eq_ok hc.years fun _ _ e => (convertYear_of_eq_ok e).1

theorem Converted.week_ids : m.weeks.map (·.id) = b.weeks.map (·.name) :=
  map_of_mapMx_eq_ok hc.weeks fun _ _ e => (convertWeek_of_eq_ok e).1

end ids

/-- **closure**: whenever the conversion yields a model, every reference in it resolves inside it -/
theorem convert_closed (b : Bdl) (m : Mdl) (h : convert b = .ok m) : closed m = true := by
  have hc := convert_eq_ok_iff.1 h
  obtain ⟨hwcid, hwnid, hlay, hgf⟩ := consFromBdl_of_eq_ok hc.cons
  unfold closed
  -- with the ids of `m` read as names of `b`, each clause holds of a collection because it holds of every conversion
  simp only [Bool.and_eq_true, List.all_eq_true, has_iff, hwcid, hwnid, hc.wall_ids, hc.space_ids,
    hc.load_ids, hc.thermostat_ids, hc.year_ids, hc.week_ids, hc.days, mem_dedup, and_assoc]
  refine ⟨forall_of_mapMx_eq_ok hc.walls fun x hx _ e => ?walls, forall_of_mapMx_eq_ok hc.windows fun x hx _ e => ?windows,
    hlay, hgf, forall_of_mapMx_eq_ok hc.spaces fun x _ _ e => ?spaces,
    forall_of_mapMx_eq_ok hc.loads fun _ _ _ e => (convertLoads_of_eq_ok e).2,
    forall_of_mapMx_eq_ok hc.thermostats fun _ _ _ e => ?thermostats,
    forall_of_mapMx_eq_ok hc.years fun _ _ _ e => (convertYear_of_eq_ok e).2,
    forall_of_mapMx_eq_ok hc.weeks fun _ _ _ e => (convertWeek_of_eq_ok e).2⟩
  case walls =>
    obtain ⟨-, -, hs, hn, -, rfl⟩ := convertWall_eq_ok_iff.1 e
    exact ⟨List.mem_map_of_mem hx, hs, optRef_iff.2 hn⟩
  case windows =>
    obtain ⟨hwl, rfl⟩ := convertWindow_eq_ok_iff.1 e
    exact ⟨List.mem_map_of_mem hx, hwl⟩
  case spaces =>
    obtain ⟨hl, ht, rfl⟩ := convertSpace_eq_ok_iff.1 e
    exact ⟨has_iff.2 hl, has_iff.2 ht⟩
  case thermostats =>
    obtain ⟨-, h1, h2⟩ := convertThermo_of_eq_ok e
    exact ⟨optRef_iff.2 h1, optRef_iff.2 h2⟩

/-- construction ids need no hypothesis: the conversion deduplicates the names it takes them from -/
theorem convert_ids_unique (b : Bdl) (m : Mdl) (h : convert b = .ok m)
    (hw : (b.walls.map (·.name)).Nodup) (hs : (b.spaces.map (·.name)).Nodup) :
    (m.walls.map (·.id)).Nodup ∧ (m.spaces.map (·.id)).Nodup ∧ (m.wallcons.map (·.id)).Nodup ∧ (m.wincons.map (·.id)).Nodup := by
  have hc := convert_eq_ok_iff.1 h
  obtain ⟨hwcid, hwnid, -, -⟩ := consFromBdl_of_eq_ok hc.cons
  rw [hwcid, hwnid, hc.wall_ids, hc.space_ids]
  exact ⟨hw, hs, dedup_nodup _, dedup_nodup _⟩

theorem wall_space_missing_rejected (b : Bdl) (w : BWall) (hw : w ∈ b.walls) (hs : w.space ∉ b.spaces.map (·.name)) :
    ∃ e, convert b = .error e :=
  error_of_not_ok fun _ h =>
    let ⟨_, e⟩ := ok_of_mem_of_mapMx_eq_ok (convert_eq_ok_iff.1 h).walls hw
    hs (convertWall_eq_ok_iff.1 e).2.2.1

theorem window_wall_missing_rejected (b : Bdl) (w : BWindow) (hw : w ∈ b.windows) (hs : w.wall ∉ b.walls.map (·.name)) :
    ∃ e, convert b = .error e :=
  error_of_not_ok fun _ h =>
    let ⟨_, e⟩ := ok_of_mem_of_mapMx_eq_ok (convert_eq_ok_iff.1 h).windows hw
    hs (convertWindow_eq_ok_iff.1 e).1

/-- before the repair F-C02a such a space was converted with the link silently dropped -/
theorem space_conditions_missing_rejected (b : Bdl) (sp : BSpace) (hs : sp ∈ b.spaces)
    (hm : sp.spaceconds ∉ b.loads.map (·.key) ∨ sp.systemconds ∉ b.thermostats.map (·.key)) :
    ∃ e, convert b = .error e :=
  error_of_not_ok fun _ h =>
    let ⟨_, e⟩ := ok_of_mem_of_mapMx_eq_ok (convert_eq_ok_iff.1 h).spaces hs
    hm.elim (· (convertSpace_eq_ok_iff.1 e).1) (· (convertSpace_eq_ok_iff.1 e).2.1)

theorem spaces_linked (b : Bdl) (m : Mdl) (h : convert b = .ok m) :
    ∀ s ∈ m.spaces, s.loads.isSome ∧ s.thermostat.isSome :=
  forall_of_mapMx_eq_ok (convert_eq_ok_iff.1 h).spaces fun _ _ _ e => by
    obtain ⟨-, -, rfl⟩ := convertSpace_eq_ok_iff.1 e
    exact ⟨rfl, rfl⟩

def exampleBdl : Bdl :=
  { spaces := [{ name := "E1", spaceconds := "Residencial", systemconds := "Residencial", nverts := 4 }],
    walls := [{ name := "M1", space := "E1", cons := "C1", nextto := none, location := some "V1", hasPolygon := false }],
    windows := [{ name := "H1", wall := "M1", cons := "G1" }],
    wallcons := [{ key := "C1", name := "C1", materials := ["Mat"] }],
    wincons := [{ key := "G1", name := "G1", glass := "V", frame := "F" }],
    materials := ["Mat", "Otro"], glasses := ["V"], frames := ["F"],
    days := ["D"], weeks := [{ name := "S", days := ["D"] }],
    years := [{ name := "A", weeks := ["S"], months := [12], days := [31] }],
    loads := [{ key := "Residencial", name := "Residencial", numericOk := true, people := some "A", equip := some "A", light := some "A" }],
    thermostats := [{ key := "Residencial", name := "Residencial", conditioned := true, cool := some "A", heat := some "A" }] }

/-- this project converts, and its unused material is purged -/
example : (convert exampleBdl).toOption.map (fun m => (m.materials, m.walls.map (·.id), closed m)) =
    some (["Mat"], ["M1"], true) := by decide +kernel

example : (convert { exampleBdl with loads := [] }).toOption.isNone = true := by decide +kernel

end Cte.Props.C02
