/-
C12 → C10: what "adding any wall or shade never increases the factor of any window" means for the
indicator. If at every hour the sunlit fraction does not increase (which `f_antitone_occluders` gives
when obstacles are added), the window's computed F_sh,obst does not increase (`fshobst_monotone`), and
hence — the gains being monotone in the factor (`C10.gains_mono_fsh`) — neither do its July gains.
-/
import Cte.Props.C12
import Cte.Props.C10Mono
namespace Cte.C12

open Cte.C10 in
/-- more obstacles, no more gains: for a window whose factor is the computed one -/
theorem gains_antitone_occluders (F : Fns) (hb : F.bias = 0) (hs : List HourIn) (f2 : HourIn → Rat)
    (hle : ∀ x ∈ hs, f2 x ≤ x.f) (h : ∀ x ∈ hs, 0 ≤ x.dir ∧ 0 < x.dir + x.dif)
    (t : QTerm) (ht : t.fsh = fshobst F hs)
    (h0 : 0 ≤ fshobst F (hs.map (fun x => { x with f := f2 x })))
    (hg : 0 ≤ t.g) (hf : t.fF ≤ 1) (ha : 0 ≤ t.area) (hr : 0 ≤ t.rad) :
    ({ t with fsh := fshobst F (hs.map (fun x => { x with f := f2 x })) } : QTerm).gains ≤ t.gains :=
  gains_mono_fsh _ t.fsh ⟨h0, hg, hf, ha, hr⟩ (ht ▸ fshobst_monotone F hb hs f2 hle h)

/-- the hypothesis `0 ≤ new factor` of the theorem above is what `fshobst_in_unit` provides -/
theorem new_factor_nonneg (F : Fns) (hb : F.bias = 0) (hs : List HourIn) (hne : hs ≠ [])
    (h : ∀ x ∈ hs, 0 ≤ x.f ∧ x.f ≤ 1 ∧ 0 ≤ x.dir ∧ 0 ≤ x.dif ∧ 0 < x.dir + x.dif) :
    0 ≤ fshobst F hs := (fshobst_in_unit F hb hs hne h).2.1

/-! ## the example hours of `C12` with every fraction halved meet `hb`, `hle` and `h` -/
example : (Fns.approx).bias = 0 := rfl
example : ∀ x ∈ exHours, x.f / 2 ≤ x.f := by decide +kernel
example : ∀ x ∈ exHours, 0 ≤ x.dir ∧ 0 < x.dir + x.dif := by decide +kernel

end Cte.C12
