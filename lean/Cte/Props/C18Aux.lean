/-
  C18 — KyGananciasSolares.txt and NewBDL_O.tbl, one line at a time: splitting at a separator character and at runs of blanks
  gives back the written fields; `Aux.parseElement` depends on its line only through those tokens; what `Aux.kygLine` does with
  a line of each kind, given how it starts and what its trimmed fields are.
-/
import Cte.Lemmas.BdlLines

namespace Cte.Props.C18Aux
open Cte.Bdl Cte.Aux

/-- fields joined by a character none of them contains (as the `;` of a KyG row) are split back into the fields -/
theorem splitChar_fields (c : Char) (fs : List Str) (hne : fs ≠ []) (hf : ∀ f ∈ fs, c ∉ f) :
    splitChar c (joinWith [c] fs) = fs :=
  splitChar_joinWith hne hf

/-- a padded list of tokens: blanks, token, blanks, token, … blanks -/
def padded : List (Str × Str) → Str → Str
  | [], trailing => trailing
  | (pad, tok) :: t, trailing => pad ++ tok ++ padded t trailing

theorem splitWs_ws_append {w : Str} (hw : AllWs w) (rest : Str) : splitWs (w ++ rest) = splitWs rest := by
  induction w with
  | nil => rfl
  | cons a t ih =>
    rw [← ih (fun c hc => hw c (by simp [hc]))]
    simp [splitWs, splitBy, hw a (by simp)]

/-- `hr`: a token ends where a blank follows, or at the end -/
theorem splitWs_token_append {tok rest : Str} (hne : tok ≠ []) (hf : Free isWs tok)
    (hr : ∀ c, rest.head? = some c → isWs c = true) : splitWs (tok ++ rest) = tok :: splitWs rest := by
  have hk : (!tok.isEmpty) = true := by simpa using hne
  cases rest with
  | nil => simp [splitWs, splitBy_last hf, splitBy, hk]
  | cons s r =>
    have hs : isWs s = true := hr s rfl
    rw [show splitWs (s :: r) = splitWs r from splitWs_ws_append (w := [s]) (by simpa [AllWs] using hs) r]
    simp only [splitWs, splitBy_token hf hs r]
    exact List.filter_cons_of_pos hk

theorem padded_head_ws {items : List (Str × Str)} {trailing : Str}
    (hpad : ∀ it ∈ items, AllWs it.1) (htr : AllWs trailing)
    (h0 : ∀ h : 0 < items.length, items[0].1 ≠ []) : ∀ c, (padded items trailing).head? = some c → isWs c = true := by
  intro c hc
  cases items with
  | nil => exact htr c (List.mem_of_mem_head? hc)
  | cons it t =>
    refine hpad it (by simp) c (List.mem_of_mem_head? ?_)
    cases h : it.1 with
    | nil => exact absurd h (h0 (Nat.zero_lt_succ _))
    | cons a r => simpa [padded, h] using hc

/-- `split_whitespace` of padded tokens gives the tokens: any run of blanks between them, at the start and at the end -/
theorem splitWs_padded (items : List (Str × Str)) (trailing : Str)
    (hpad : ∀ it ∈ items, ∀ c ∈ it.1, isWs c = true) (htr : ∀ c ∈ trailing, isWs c = true)
    (htok : ∀ it ∈ items, it.2 ≠ [] ∧ Free isWs it.2)
    (hsep : ∀ i, ∀ h : i + 1 < items.length, (items[i + 1]).1 ≠ []) :
    splitWs (padded items trailing) = items.map (·.2) := by
  induction items with
  | nil => rw [padded, ← List.append_nil trailing, splitWs_ws_append htr]; rfl
  | cons it t ih =>
    have hpt : ∀ x ∈ t, AllWs x.1 := fun x hx => hpad x (by simp [hx])
    rw [padded, List.append_assoc, splitWs_ws_append (hpad it (by simp)),
      splitWs_token_append (htok it (by simp)).1 (htok it (by simp)).2
        (padded_head_ws hpt htr fun h => hsep 0 (Nat.succ_lt_succ h)),
      ih hpt (fun x hx => htok x (by simp [hx])) (fun i h => hsep (i + 1) (Nat.succ_lt_succ h))]
    rfl

theorem splitWs_name_values {name w : Str} {pads toks : List Str} {trailing : Str} (hw : AllWs w) (hlen : pads.length = toks.length)
    (hname : name ≠ [] ∧ Free isWs name) (htoks : ∀ t ∈ toks, t ≠ [] ∧ Free isWs t)
    (hpads : ∀ p ∈ pads, p ≠ [] ∧ AllWs p) (htr : AllWs trailing) :
    splitWs (name ++ w ++ padded (pads.zip toks) trailing) = name :: toks := by
  have hpad : ∀ it ∈ pads.zip toks, AllWs it.1 := fun it hit => (hpads _ (List.of_mem_zip hit).1).2
  have hne : ∀ it ∈ pads.zip toks, it.1 ≠ [] := fun it hit => (hpads _ (List.of_mem_zip hit).1).1
  have hr : ∀ c, (w ++ padded (pads.zip toks) trailing).head? = some c → isWs c = true := by
    cases w with
    | nil => exact padded_head_ws hpad htr fun h => hne _ (List.getElem_mem h)
    | cons a r => intro c hc; exact hw c (by simp at hc; simp [hc])
  rw [List.append_assoc, splitWs_token_append hname.1 hname.2 hr, splitWs_ws_append hw,
    splitWs_padded _ _ hpad htr (fun it hit => htoks _ (List.of_mem_zip hit).2) (fun i h => hne _ (List.getElem_mem h)),
    List.map_snd_zip (Nat.le_of_eq hlen.symm)]

/-! ### NewBDL_O.tbl rows -/

/-- `parseElement` reads its line through the blank-separated tokens only -/
theorem parseElement_tokens {s name : Str} {toks : List Str} {nums : List Num} {a b : Int}
    (hs : splitWs s = name :: toks) (hlen : toks.length = 10)
    (hnums : (toks.take 7).mapM parseF32 = some nums)
    (htype : elemTypes.any (fun t => t.toList == toks.getD 7 []) = true)
    (ha : parseI32 (toks.getD 8 []) = some a) (hb : parseI32 (toks.getD 9 []) = some b) :
    parseElement s = some { name := name, nums := nums, etype := toks.getD 7 [], idSurf := a, idSpace := b } := by
  have h11 : ((name :: toks).length != 11) = false := by simp [hlen]
  simp only [parseElement, hs, h11, Bool.false_eq_true, if_false, List.drop_succ_cons, List.drop_zero, nth, List.getD_cons_succ,
    List.getD_cons_zero, hnums, ha, hb, htype, if_true]

/-- an element row: the name (one token, quotes already removed) followed by the values line with any padding -/
theorem parseElement_row (name : Str) (toks : List Str) (pads : List Str) (trailing : Str) (nums : List Num) (a b : Int)
    (hlen : toks.length = 10) (hplen : pads.length = 10)
    (hname : name ≠ [] ∧ Free isWs name)
    (htoks : ∀ t ∈ toks, t ≠ [] ∧ Free isWs t)
    (hpads : ∀ p ∈ pads, p ≠ [] ∧ ∀ c ∈ p, isWs c = true) (htr : ∀ c ∈ trailing, isWs c = true)
    (hnums : (toks.take 7).mapM parseF32 = some nums)
    (htype : elemTypes.any (fun t => t.toList == toks.getD 7 []) = true)
    (ha : parseI32 (toks.getD 8 []) = some a) (hb : parseI32 (toks.getD 9 []) = some b) :
    parseElement (padded (([], name) :: pads.zip toks) trailing) =
      some { name := name, nums := nums, etype := toks.getD 7 [], idSurf := a, idSpace := b } :=
  parseElement_tokens
    (by simpa [padded] using splitWs_name_values (w := []) allWs_nil (hplen.trans hlen.symm) hname htoks hpads htr)
    hlen hnums htype ha hb

/-! ### KyG lines, kind by kind -/
theorem nth_cons_zero (a : Str) (l : List Str) : nth (a :: l) 0 = a := rfl
theorem nth_cons_succ (a : Str) (l : List Str) (n : Nat) : nth (a :: l) (n + 1) = nth l n := rfl

theorem kygLine_skip (st : Kyg) {line : Str} (h : (startsWith ['#'] line || line.isEmpty) = true) : kygLine st line = .ok st := by
  unfold kygLine
  rw [if_pos h]

theorem kygLine_muro (st : Kyg) {line name a u b : Str} {more : List Str} {an un bn : Num}
    (hl : startsWith "Muro".toList line = true)
    (hv : (splitChar ';' line).map trim = "Muro".toList :: name :: a :: u :: b :: more)
    (ha : commaNum a = some an) (hu : commaNum u = some un) (hb : commaNum b = some bn) :
    kygLine st line = .ok { st with walls := st.walls ++ [
      { name := name, a := an, u := un, btrx := bn,
        extra := if 3 ≤ more.length then some (nth more 0, nth more 1, nth more 2) else none }] } := by
  obtain ⟨rest, rfl⟩ := List.isPrefixOf_iff_prefix.mp hl
  have hlen : more.length + 5 > 7 ↔ 3 ≤ more.length := by omega
  unfold kygLine
  rw [hv]
  simp [startsWith, nth_cons_zero, nth_cons_succ, ha, hu, hb, hlen]

theorem kygLine_ventana (st : Kyg) {line name a u o ff : Str} {more : List Str} {an un fn : Num}
    (hl : startsWith "Ventana".toList line = true)
    (hv : (splitChar ';' line).map trim = "Ventana".toList :: name :: a :: u :: o :: ff :: more) (hm : more.length ≤ 4)
    (ha : commaNum a = some an) (hu : commaNum u = some un) (hf : commaNum ff = some fn) :
    kygLine st line = .ok { st with windows := st.windows ++ [
      { name := name, orientation := replaceOW o, a := an, u := un, ff := fn, extra := none }] } := by
  obtain ⟨rest, rfl⟩ := List.isPrefixOf_iff_prefix.mp hl
  have hlen : ¬ (more.length + 6 > 10) := by omega
  unfold kygLine
  rw [hv]
  simp [startsWith, nth_cons_zero, nth_cons_succ, ha, hu, hf, hlen]

theorem kygLine_ventanaLong (st : Kyg) {line name a u o ff g1 g2 g3 g4 cons : Str} {more : List Str} {an un fn n1 n2 n3 n4 : Num}
    (hl : startsWith "Ventana".toList line = true)
    (hv : (splitChar ';' line).map trim = "Ventana".toList :: name :: a :: u :: o :: ff :: g1 :: g2 :: g3 :: g4 :: cons :: more)
    (ha : commaNum a = some an) (hu : commaNum u = some un) (hf : commaNum ff = some fn)
    (h1 : commaNum g1 = some n1) (h2 : commaNum g2 = some n2) (h3 : commaNum g3 = some n3) (h4 : commaNum g4 = some n4) :
    kygLine st line = .ok { st with windows := st.windows ++ [
      { name := name, orientation := replaceOW o, a := an, u := un, ff := fn, extra := some (n1, n2, n3, n4, cons) }] } := by
  obtain ⟨rest, rfl⟩ := List.isPrefixOf_iff_prefix.mp hl
  unfold kygLine
  rw [hv]
  simp [startsWith, nth_cons_zero, nth_cons_succ, ha, hu, hf, h1, h2, h3, h4]

theorem kygLine_pptt (st : Kyg) {line l psi name : Str} {more : List Str} {ln pn : Num}
    (hl : startsWith "PPTT".toList line = true)
    (hv : (splitChar ';' line).map trim = "PPTT".toList :: l :: psi :: name :: more)
    (hln : commaNum l = some ln) (hpn : commaNum psi = some pn) :
    kygLine st line = .ok { st with tbs := st.tbs ++ [{ name := name, l := ln, psi := pn, sisdim := more.head?.getD [] }] } := by
  obtain ⟨rest, rfl⟩ := List.isPrefixOf_iff_prefix.mp hl
  have hs : (if 0 < more.length then nth more 0 else []) = more.head?.getD [] := by cases more <;> rfl
  unfold kygLine
  rw [hv]
  simp [startsWith, nth_cons_zero, nth_cons_succ, hln, hpn, hs]

theorem second_field {l : List Str} {c v : Str} {more : List Str} (hv : l.map trim = c :: v :: more) :
    ∃ f, l[1]? = some f ∧ trim f = v := by
  have : (l.map trim)[1]? = some v := by rw [hv]; rfl
  rwa [List.getElem?_map, Option.map_eq_some_iff] at this

theorem kygLine_k (st : Kyg) {line c v : Str} {more : List Str} {kn : Num}
    (hl : startsWith "Coeficiente K".toList line = true)
    (hv : (splitChar ';' line).map trim = c :: v :: more) (hk : commaNum v = some kn) :
    kygLine st line = .ok { st with k := some kn } := by
  obtain ⟨f, hf, rfl⟩ := second_field hv
  obtain ⟨rest, rfl⟩ := List.isPrefixOf_iff_prefix.mp hl
  unfold kygLine
  rw [hf]
  simp [startsWith, hk]

theorem kygLine_factor (st : Kyg) {d : Char} {line c v : Str} {more : List Str} {vn : Num}
    (hd : d ∈ ['0', '1', '2', '3', '4', '5', '6', '7', '8']) (hl : startsWith [d] line = true)
    (hv : (splitChar ';' line).map trim = c :: v :: more) (hn : commaNum v = some vn) :
    kygLine st line = .ok { st with hfactors := st.hfactors ++ [vn] } := by
  obtain ⟨f, hf, rfl⟩ := second_field hv
  obtain ⟨rest, rfl⟩ := List.isPrefixOf_iff_prefix.mp hl
  -- a digit is none of the characters the earlier tests look for
  have hne : ∀ d ∈ ['0', '1', '2', '3', '4', '5', '6', '7', '8'], '#' ≠ d ∧ 'M' ≠ d ∧ 'V' ≠ d ∧ 'P' ≠ d ∧ '"' ≠ d ∧ 'C' ≠ d := by decide
  unfold kygLine
  rw [hf]
  simp [startsWith, hn, hne d hd, hd]

theorem kygLine_gains (st : Kyg) {line q name f1 f2 f3 f4 f5 f6 f7 : Str} {more : List Str} {n1 n2 n3 n4 n5 n6 n7 : Num}
    (hl : startsWith ['"'] line = true)
    (hv : (splitChar ';' line).map trim = q :: f1 :: f2 :: f3 :: f4 :: f5 :: f6 :: f7 :: more) (hq : trimMatches '"' q = name)
    (h1 : parseF32 f1 = some n1) (h2 : parseF32 f2 = some n2) (h3 : parseF32 f3 = some n3) (h4 : parseF32 f4 = some n4)
    (h5 : parseF32 f5 = some n5) (h6 : parseF32 f6 = some n6) (h7 : parseF32 f7 = some n7) :
    kygLine st line = .ok { st with gains := st.gains ++ [{ name := name, azimuth := n1, htot := n3, h3 := n6 }] } := by
  obtain ⟨rest, rfl⟩ := List.isPrefixOf_iff_prefix.mp hl
  unfold kygLine
  rw [hv]
  simp [startsWith, nth_cons_zero, nth_cons_succ, hq, h1, h2, h3, h4, h5, h6, h7]

/-! ### KyG rows without padding -/
theorem trimmed_fields {c : Char} {fs : List Str} (hne : fs ≠ []) (hf : ∀ f ∈ fs, c ∉ f ∧ Clean f) :
    (splitChar c (joinWith [c] fs)).map trim = fs := by
  rw [splitChar_fields c fs hne (fun f m => (hf f m).1)]
  exact map_trim_clean fun f m => (hf f m).2

/-- a `PPTT` row printed as `PPTT;length;psi;name[;system]` with either decimal separator is read back -/
theorem kyg_pptt_row (st : Kyg) (l psi name : Str) (ln pn : Num)
    (hl : ';' ∉ l ∧ Clean l) (hp : ';' ∉ psi ∧ Clean psi) (hn : ';' ∉ name ∧ Clean name)
    (hln : commaNum l = some ln) (hpn : commaNum psi = some pn) :
    kygLine st (joinWith [';'] ["PPTT".toList, l, psi, name]) =
      .ok { st with tbs := st.tbs ++ [{ name := name, l := ln, psi := pn, sisdim := [] }] } :=
  kygLine_pptt st (more := []) (by simp [joinWith, startsWith])
    (trimmed_fields (by simp) (by simpa [hl, hp, hn] using (by decide : Clean "PPTT".toList))) hln hpn

/-- a `Muro` row in the short layout `Muro;name;area;U;b` is read back -/
theorem kyg_muro_row (st : Kyg) (name a u b : Str) (an un bn : Num)
    (hn : ';' ∉ name ∧ Clean name) (ha : ';' ∉ a ∧ Clean a) (hu : ';' ∉ u ∧ Clean u) (hb : ';' ∉ b ∧ Clean b)
    (han : commaNum a = some an) (hun : commaNum u = some un) (hbn : commaNum b = some bn) :
    kygLine st (joinWith [';'] ["Muro".toList, name, a, u, b]) =
      .ok { st with walls := st.walls ++ [{ name := name, a := an, u := un, btrx := bn, extra := none }] } :=
  kygLine_muro st (more := []) (by simp [joinWith, startsWith])
    (trimmed_fields (by simp) (by simpa [hn, ha, hu, hb] using (by decide : Clean "Muro".toList))) han hun hbn

/-- a `Ventana` row in the short layout `Ventana;name;area;U;orientation;frame %` is read back (O → W in the orientation) -/
theorem kyg_ventana_row (st : Kyg) (name a u o ff : Str) (an un fn : Num)
    (hn : ';' ∉ name ∧ Clean name) (ha : ';' ∉ a ∧ Clean a) (hu : ';' ∉ u ∧ Clean u) (ho : ';' ∉ o ∧ Clean o) (hf : ';' ∉ ff ∧ Clean ff)
    (han : commaNum a = some an) (hun : commaNum u = some un) (hfn : commaNum ff = some fn) :
    kygLine st (joinWith [';'] ["Ventana".toList, name, a, u, o, ff]) =
      .ok { st with windows := st.windows ++ [{ name := name, orientation := replaceOW o, a := an, u := un, ff := fn, extra := none }] } :=
  kygLine_ventana st (more := []) (by simp [joinWith, startsWith])
    (trimmed_fields (by simp) (by simpa [hn, ha, hu, ho, hf] using (by decide : Clean "Ventana".toList))) (by simp) han hun hfn

example : commaNum "54,14".toList = some (Num.fin false 5414 (-2)) := by decide +kernel
example : commaNum "0.960".toList = some (Num.fin false 960 (-3)) := by decide +kernel
-- `rw [String.toList_ofList]` first: see `exampleText_blocks` in `Props/C18.lean`
example : (kygLine {} "PPTT;54,14;0,960;UNION_CUBIERTA;SDINT".toList).toOption.map (fun k => k.tbs.map (fun t => (String.ofList t.name, t.l, String.ofList t.sisdim))) =
    some [("UNION_CUBIERTA", Num.fin false 5414 (-2), "SDINT")] := by
  rw [String.toList_ofList]; decide +kernel
example : (parseElement "P01_E01_PE001  28.000000 1.715771 209.800003 0.000000 0.000000 180.000000 90.000000 0 1 -1".toList).map
    (fun e => (String.ofList e.name, e.nums.length, String.ofList e.etype, e.idSurf, e.idSpace)) = some ("P01_E01_PE001", 7, "0", 1, -1) := by
  rw [String.toList_ofList]; decide +kernel

end Cte.Props.C18Aux
