/-
C01 — Export tool writes exactly the model JSON to standard output; the companion tool `thor` leaves the same JSON
in the file named with `-o`.
-/
import Cte.Model.Cli
import Cte.Gen.StdoutSites
namespace Cte.C01
open Cte.Cli

theorem stdoutOf_append (a b : List Write) : stdoutOf (a ++ b) = stdoutOf a ++ stdoutOf b := by
  simp [stdoutOf, List.filter_append]

/-- the tool's own messages are existential, so that no text of `cliMain` is repeated here: the proof finds them by
unification -/
theorem cliMain_dir (prog : String) (opts : List String) (dir : String) :
    ∃ (pre : List Write) (onErr onOk : String → List Write),
      stdoutOf pre = [] ∧ (∀ e, stdoutOf (onErr e) = []) ∧ (∀ json, stdoutOf (onOk json) = [json ++ "\n"]) ∧
      ∀ lib : String → Bool → LibRun, cliMain (prog :: (opts ++ [dir])) lib =
        let r := lib dir (opts.any (· == "--use-extra"))
        match r.result with
        | .error e => ⟨pre ++ r.writes ++ onErr e, 1⟩
        | .ok json => ⟨pre ++ r.writes ++ onOk json, 0⟩ := by
  cases h : opts ++ [dir] with
  | nil => simp at h
  | cons a t =>
    have hl : (a :: t).getLast! = dir := by simp [← h]
    have hd : (a :: t).dropLast = opts := by simp [← h]
    simp only [cliMain, hl, hd]
    refine ⟨?pre, ?onErr, ?onOk, ?_, ?_, ?_, fun lib => ?eq⟩
    case eq => cases (lib dir (opts.any (· == "--use-extra"))).result <;> rfl
    · split <;> simp [stdoutOf]
    · exact fun _ => rfl
    · exact fun _ => rfl

/-- a silent library that returns the model JSON: stdout is exactly that JSON and a newline, status 0 -/
theorem cli_stdout_exact (prog : String) (opts : List String) (dir : String) (lib : String → Bool → LibRun)
    (json : String)
    (hsilent : stdoutOf (lib dir (opts.any (· == "--use-extra"))).writes = [])
    (hok : (lib dir (opts.any (· == "--use-extra"))).result = .ok json) :
    let r := cliMain (prog :: (opts ++ [dir])) lib
    stdoutOf r.writes = [json ++ "\n"] ∧ r.status = 0 := by
  obtain ⟨pre, onErr, onOk, hpre, -, hout, h⟩ := cliMain_dir prog opts dir
  simp only [h, hok, stdoutOf_append, hpre, hsilent, hout]
  exact ⟨rfl, trivial⟩

/-- the library fails: in particular, no project in the directory -/
theorem cli_error_silent (prog : String) (opts : List String) (dir : String) (lib : String → Bool → LibRun)
    (e : String)
    (hsilent : stdoutOf (lib dir (opts.any (· == "--use-extra"))).writes = [])
    (herr : (lib dir (opts.any (· == "--use-extra"))).result = .error e) :
    let r := cliMain (prog :: (opts ++ [dir])) lib
    stdoutOf r.writes = [] ∧ r.status ≠ 0 := by
  obtain ⟨pre, onErr, onOk, hpre, hend, -, h⟩ := cliMain_dir prog opts dir
  simp only [h, herr, stdoutOf_append, hpre, hsilent, hend]
  exact ⟨rfl, by decide⟩

/-- without a directory argument: help on stderr, status 1, nothing on stdout -/
theorem cli_no_args (prog : String) (lib : String → Bool → LibRun) :
    stdoutOf (cliMain [prog] lib).writes = [] ∧ (cliMain [prog] lib).status = 1 := by
  simp [cliMain, stdoutOf]

/-- says only that the library's writes occur among the tool's, which is trivial when it writes nothing; `cliMain_dir`
is the full statement -/
theorem cli_passes_option (prog : String) (opts : List String) (dir : String) (lib : String → Bool → LibRun) :
    ∃ pre post, (cliMain (prog :: (opts ++ [dir])) lib).writes =
      pre ++ (lib dir (opts.any (· == "--use-extra"))).writes ++ post := by
  obtain ⟨pre, onErr, onOk, -, -, -, h⟩ := cliMain_dir prog opts dir
  simp only [h]
  cases (lib dir (opts.any (· == "--use-extra"))).result <;> exact ⟨_, _, rfl⟩

def offendingSites : List Gen.StdoutSite := Gen.stdoutSites.filter (fun s => !s.allowed)

/-- syntactic: `tools/gen_stdout_sites.py` lists every `print!`, `println!` and `stdout()` of the library crates and
carries its own allow-list; there is no reachability analysis behind it -/
theorem repo_lib_silent : offendingSites = [] := by decide +kernel

theorem single_output_site : (Gen.stdoutSites.filter (fun s => s.crate == "hulc2model" && s.allowed)).length = 1 := by
  decide +kernel

theorem read_write_same (fs : Fs) (p c : String) : (fs.write p c).read p = some c := by
  simp [Fs.write, Fs.read]

theorem read_write_other {fs : Fs} {p q c : String} (h : q ≠ p) : (fs.write p c).read q = fs.read q := by
  simp only [Fs.write, Fs.read, List.find?_cons, h.symm, decide_false, List.find?_filter]
  congr 2
  funext e
  by_cases he : e.1 = q <;> simp [he, h]

/-- files and exit status in closed form; the verbosity does not occur -/
theorem thorMain_effect (a : ThorArgs) (lib : String → Except String (String × String))
    (canCreate : String → Bool) (fs : Fs) :
    ((thorMain a lib canCreate fs).fs, (thorMain a lib canCreate fs).status) =
      if a.license then (fs, 0) else
      match lib a.input with
      | .error _ => (fs, 65)
      | .ok (mj, ij) =>
        let fs1 := a.out.elim fs (fs.write · mj)
        if a.out.any (!canCreate ·) then (fs, 73) else
        if a.res.any (!canCreate ·) then (fs1, 73) else (a.res.elim fs1 (fs1.write · ij), 0) := by
  unfold thorMain
  cases a.license
  case true => rfl
  cases lib a.input with
  | error e => rfl
  | ok r =>
    -- decide `canCreate` before `thorWriteFile` is unfolded: each triple it returns occurs many times
    rcases a.out with _ | p <;> rcases a.res with _ | q
    · rfl
    · cases h : canCreate q <;> simp [thorWriteFile, h]
    · cases h : canCreate p <;> simp [thorWriteFile, h]
    · cases h : canCreate p <;> cases h' : canCreate q <;> simp [thorWriteFile, h, h']

/-- `thor FILE -o P`, at any verbosity, with or without `-r R` for another path R: P ends up holding exactly the model
JSON, whatever it held before -/
theorem thor_output_file (a : ThorArgs) (lib : String → Except String (String × String))
    (canCreate : String → Bool) (fs : Fs) (p mj ij : String)
    (hl : a.license = false) (hlib : lib a.input = .ok (mj, ij)) (ho : a.out = some p)
    (hc : canCreate p = true) (hr : ∀ r, a.res = some r → r ≠ p ∧ canCreate r = true) :
    let run := thorMain a lib canCreate fs
    run.fs.read p = some mj ∧ run.status = 0 := by
  intro run
  obtain ⟨hfs, hst⟩ : run.fs = _ ∧ run.status = _ := Prod.ext_iff.1 (thorMain_effect a lib canCreate fs)
  rw [hfs, hst]
  cases hres : a.res with
  | none => simp [hl, hlib, ho, hc, read_write_same]
  | some r =>
    obtain ⟨hne, hcr⟩ := hr r hres
    simp [hl, hlib, ho, hc, hcr, read_write_same, read_write_other hne.symm]

theorem thor_file_independent_of_verbosity (a : ThorArgs) (lib : String → Except String (String × String))
    (canCreate : String → Bool) (fs : Fs) (v : Nat) :
    (thorMain { a with v := v } lib canCreate fs).fs = (thorMain a lib canCreate fs).fs ∧
    (thorMain { a with v := v } lib canCreate fs).status = (thorMain a lib canCreate fs).status :=
  Prod.ext_iff.1 ((thorMain_effect { a with v := v } lib canCreate fs).trans (thorMain_effect a lib canCreate fs).symm)

/-- `lib` yields both JSON texts before anything is written; thor.rs computes the indicators after writing the `-o`
file, and a failure there is not covered -/
theorem thor_error_writes_nothing (a : ThorArgs) (lib : String → Except String (String × String))
    (canCreate : String → Bool) (fs : Fs) (e : String) (hl : a.license = false)
    (hlib : lib a.input = .error e) :
    let run := thorMain a lib canCreate fs
    run.fs = fs ∧ stdoutOf run.writes = [] ∧ run.status ≠ 0 := by
  simp [thorMain, hl, hlib, stdoutOf]

example : (thorMain { input := "a.ctehexml", out := some "m.json", v := 2 } (fun _ => .ok ("MODEL", "IND"))
    (fun _ => true) [("m.json", "old and much longer content")]).fs.read "m.json" = some "MODEL" := by decide +kernel

end Cte.C01
