/-
C17 — "HULC schedules given as end dates are converted into periods that partition the 365-day year exactly at those dates,
weekly schedules into runs covering 7 days and daily ones into 24 values": the three clauses on the conversion of the typed schedules.
-/
import Cte.Model.ConvSched
import Cte.Props.C17
namespace Cte.C17C
open Cte Cte.Bdl Cte.BdlData Cte.ConvS Cte.C17

/-- **daily schedules come out with 24 values**: a single written value is repeated over the day, 24 written values are kept, anything
else is rejected -/
theorem day_24_values (name kind : Str) (vs : List TNum) (n : Str) (out : List TNum)
    (h : convSched (.day name kind vs) = some (.day n out)) :
    out.length = 24 ∧ n = name ∧ ((∃ v, vs = [v] ∧ out = List.replicate 24 v) ∨ (vs.length = 24 ∧ out = vs)) := by
  simp only [convSched] at h
  split at h
  · rename_i v
    cases h
    exact ⟨List.length_replicate, rfl, Or.inl ⟨v, rfl, rfl⟩⟩
  · split at h
    · rename_i hl
      cases h
      exact ⟨hl, rfl, Or.inr ⟨hl, rfl⟩⟩
    · cases h

/-- **weekly schedules come out as runs covering 7 days**, in the written order -/
theorem week_runs_cover_7 (name kind : Str) (ds : List Str) (n : Str) (runs : List (String × Nat))
    (h : convSched (.week name kind ds) = some (.week n runs)) :
    (runs.map (·.2)).sum = 7 ∧
    (ds.length = 7 → runs.flatMap (fun e => List.replicate e.2 e.1) = ds.map String.ofList) := by
  simp only [convSched] at h
  split at h
  · cases h
    exact ⟨rfl, nofun⟩
  · split at h
    · rename_i hl
      cases h
      exact ⟨by rw [week_runs_total, List.length_map, hl], fun _ => week_runs_expand _⟩
    · cases h

/-- **yearly schedules come out as periods that partition the year at the written end dates**: one period per written week, the lengths
are the differences of consecutive day numbers (so they add up to the day number of the last date: 365 for 31 December) -/
theorem year_periods_partition (name kind : Str) (days months : List Nat) (weeks : List Str) (n : Str) (ps : List (Str × Nat))
    (h : convSched (.year name kind days months weeks) = some (.year n ps)) :
    ps.map (·.1) = weeks ∧
    periodLengths ((days.zip months).map (fun dm => dayOfYear dm.1 dm.2)) = some (ps.map (·.2)) ∧
    (((days.zip months).map (fun dm => dayOfYear dm.1 dm.2)).getLast? = some 365 → (ps.map (·.2)).sum = 365) := by
  simp only [convSched] at h
  split at h
  · cases h
  · rename_i counts hc
    split at h
    · rename_i hl
      simp only [Bool.and_eq_true, decide_eq_true_eq] at hl
      cases h
      rw [List.map_fst_zip hl.1.1.ge, List.map_snd_zip hl.1.1.le]
      exact ⟨rfl, hc, fun hlast => (periods_partition _ counts hc hlast).1⟩
    · cases h

example : (match convSched (.year "A".toList "FRACTION".toList [31, 30, 31] [5, 9, 12] ["w1".toList, "w2".toList, "w1".toList]) with
    | some (.year _ ps) => ps.map (·.2)
    | _ => []) = [151, 122, 92] := by decide +kernel

end Cte.C17C
