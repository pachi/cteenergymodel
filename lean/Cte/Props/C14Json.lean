/-
C14, last clause — "every reported number is finite and the result serialises to JSON that loads back":
the two halves are one fact about the format.  serde_json writes a non-finite `f32` as `null`; a field of type
`f32` refuses `null` when loading, a field of type `Option<f32>` reads it as `None`.  Hence a record of numbers
loads back exactly when all of them are finite, and a non-finite optional number is silently lost.
-/
import Cte.Model.Codec
import Cte.Lemmas.OptionMapM
namespace Cte.C14J
open Cte.Codec

theorem f32_loads_back_iff (x : F32J) : F32J.dec x.enc = some x ↔ x ≠ .nonfinite := by
  cases x <;> simp [F32J.enc, F32J.dec]

theorem f32_nonfinite_rejected : F32J.dec F32J.nonfinite.enc = none := rfl

theorem opt_f32_loads_back_iff (x : Option F32J) : F32J.decOpt (F32J.encOpt x) = some x ↔ x ≠ some .nonfinite := by
  rcases x with _ | _ | _ <;> simp [F32J.encOpt, F32J.enc, F32J.decOpt]

theorem opt_f32_nonfinite_lost : F32J.decOpt (F32J.encOpt (some .nonfinite)) = some none := rfl

/-- the indicator records `KData`, `N50Data`, `QSolJulData`… are such records of required numbers, field by field -/
theorem record_loads_back_iff (xs : List F32J) :
    (xs.map F32J.enc).mapM F32J.dec = some xs ↔ ∀ x ∈ xs, x ≠ .nonfinite := by
  simp only [mapM_map_eq_some_self_iff, f32_loads_back_iff]

example : ([F32J.fin false 57 (-1), .nonfinite].map F32J.enc).mapM F32J.dec = none := by decide
example : ([F32J.fin false 57 (-1), .fin true 1 0].map F32J.enc).mapM F32J.dec = some [.fin false 57 (-1), .fin true 1 0] := by decide

end Cte.C14J
