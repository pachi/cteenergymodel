/-
C06 (bounds) — what the surface resistances alone guarantee for an air-contact element, whatever its
layers: with a non-negative stack resistance the unrounded U-value is positive, never exceeds the
value of the bare surfaces (1 / (R_si + R_se): 7.14 for roofs, 5.88 for walls, 4.76 for floors) and
is strictly below 1 / R for a stack of resistance R > 0.
-/
import Cte.Props.C06
namespace Cte.C06

theorem uExteriorRaw_pos (t : TiltC) (r : Rat) (h0 : 0 ≤ r) : 0 < uExteriorRaw t r :=
  one_div_pos.2 (uExteriorRaw_den_pos t h0)

theorem uExteriorRaw_le_bare (t : TiltC) (r : Rat) (h0 : 0 ≤ r) : uExteriorRaw t r ≤ uExteriorRaw t 0 :=
  uExteriorRaw_antitone t (le_refl 0) h0

theorem bare_values :
    uExteriorRaw .top 0 = 1 / (RSI_ASC + RSE) ∧ uExteriorRaw .side 0 = 1 / (RSI_HOR + RSE) ∧
    uExteriorRaw .bottom 0 = 1 / (RSI_DESC + RSE) := by
  unfold uExteriorRaw rsiOf
  simp only [zero_add, and_self]

theorem uExteriorRaw_lt_inv (t : TiltC) (r : Rat) (hr : 0 < r) : uExteriorRaw t r < 1 / r :=
  one_div_lt_one_div_of_lt hr (by linarith [rsiOf_pos t, RSE_pos])

/-- one bound for every class: no air-contact element with non-negative layers reaches 7.15 W/m²K -/
theorem uExteriorRaw_lt_cap (t : TiltC) (r : Rat) (h0 : 0 ≤ r) : uExteriorRaw t r < 715 / 100 :=
  (uExteriorRaw_le_bare t r h0).trans_lt (by cases t <;> decide +kernel)

/-! ## non-vacuity -/
example : uExteriorRaw .side (1 / 2) = 1 / (1 / 2 + RSI_HOR + RSE) := rfl
example : 0 < uExteriorRaw .top 3 ∧ uExteriorRaw .top 3 < 1 / 3 := by decide +kernel

end Cte.C06
