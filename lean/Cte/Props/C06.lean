/-
C06 — Opaque U-values follow EN ISO 6946, 13370 and 13789.
Property theorems about the code-shaped model `Cte/Model/Energy.lean`, against `Cte/Spec/Iso.lean`.
Where a statement carries `hb : F.bias = 0` it is for the unbiased rounding, i.e. `fround2`.
-/
import Cte.Lemmas.Energy
import Cte.Spec.Iso
import Cte.Lemmas.Round
import Mathlib.Tactic.Ring
namespace Cte.C06
open Cte.Spec

theorem rsi_table (t : TiltC) : rsiOf t = rsi (flowExterior t) := by cases t <;> rfl
theorem rse_const : RSE = rse := rfl

/-- the code's `(this_cond, next_cond, tilt)` table is "the direction of the flow from the conditioned
to the unconditioned space" -/
theorem partition_flow_direction (tc nc : Bool) (t : TiltC) :
    partitionRsi tc nc t = rsi (flowPartition tc nc t) := by
  cases tc <;> cases nc <;> cases t <;> rfl

theorem uExteriorRaw_eq_spec (t : TiltC) (r : Rat) : uExteriorRaw t r = uAir (flowExterior t) r := by
  unfold uExteriorRaw uAir
  rw [rsi_table, rse_const]
  congr 1; ring

/-- an EXTERIOR or ADIABATIC element whose construction and materials resolve
has U = round2 (1/(Rsi(direction) + ΣR + Rse)) -/
theorem uExterior_eq_spec (F : Fns) (hb : F.bias = 0) (w : Wall) (m : Model) (c : WallCons) (r : Rat)
    (hbd : w.bounds = .exterior ∨ w.bounds = .adiabatic)
    (hc : m.cons.getWallCons w.cons = some c) (hr : c.resistance m.cons = some r) :
    w.uValue F m = some { v := round2 (uAir (flowExterior w.tiltC) r) } := by
  rw [Wall.uValue_air hbd, Wall.resOf_eq_some_iff.2 ⟨c, hc, hr⟩, Option.map_some, Fns.r2_unbiased F hb,
    uExteriorRaw_eq_spec]

/-- air-contact elements only: the ground and interior arms also need their spaces to resolve -/
theorem uExterior_none_iff (F : Fns) (w : Wall) (m : Model)
    (hbd : w.bounds = .exterior ∨ w.bounds = .adiabatic) :
    w.uValue F m = none ↔
      m.cons.getWallCons w.cons = none ∨
      ∃ c, m.cons.getWallCons w.cons = some c ∧ c.resistance m.cons = none := by
  rw [Wall.uValue_air hbd, Option.map_eq_none_iff, Wall.resOf]
  cases m.cons.getWallCons w.cons <;> simp

/-- ΣR over the layers (thickness/λ, or the given R) -/
theorem resistance_eq_sum (c : WallCons) (db : ConsDb) :
    c.resistance db = (c.layers.mapM (layerResistance db)).map rsum := by
  simp [WallCons.resistance_eq_foldl, foldl_accR]

theorem layerResistance_none_iff (db : ConsDb) (l : Layer) :
    layerResistance db l = none ↔
      db.getMaterial l.material = none ∨
      ∃ mat k d sh vd, db.getMaterial l.material = some mat ∧
        mat.properties = .detailed k d sh vd ∧ k ≤ 0 := by
  unfold layerResistance
  cases db.getMaterial l.material with
  | none => simp only [true_or]
  | some mat =>
    simp only [Option.some.injEq, reduceCtorEq, false_or, exists_and_left, exists_eq_left']
    cases mat.properties <;> simp

theorem uExteriorRaw_antitone (t : TiltC) {r1 r2 : Rat} (h0 : 0 ≤ r1) (h : r1 ≤ r2) :
    uExteriorRaw t r2 ≤ uExteriorRaw t r1 :=
  one_div_le_one_div_of_le (uExteriorRaw_den_pos t h0) (add_le_add_left (add_le_add_left h _) _)

theorem r2_uExteriorRaw_antitone (F : Fns) (hb : F.bias = 0) (t : TiltC) {r1 r2 : Rat} (h0 : 0 ≤ r1) (h : r1 ≤ r2) :
    F.r2 (uExteriorRaw t r2) ≤ F.r2 (uExteriorRaw t r1) := by
  rw [Fns.r2_unbiased F hb, Fns.r2_unbiased F hb]
  exact round2_mono (uExteriorRaw_antitone t h0 h)

/-- adding a layer of non-negative resistance to an air-contact element never increases its U -/
theorem u_antitone_add_layer (F : Fns) (hb : F.bias = 0) (w : Wall) (c : WallCons) (db : ConsDb)
    (l : Layer) (r rl : Rat) (hr : c.resistance db = some r) (hl : layerResistance db l = some rl)
    (h0 : 0 ≤ r) (hl0 : 0 ≤ rl) :
    ∃ u1 u2, w.uExterior F (c.resistance db) = some u1 ∧
      w.uExterior F (({ c with layers := c.layers ++ [l] } : WallCons).resistance db) = some u2 ∧
      u2 ≤ u1 := by
  rw [WallCons.resistance_append, hr, hl]
  exact ⟨_, _, rfl, rfl, r2_uExteriorRaw_antitone F hb w.tiltC h0 (le_add_of_nonneg_right hl0)⟩

/-- a thicker layer has more resistance (λ > 0) -/
theorem layer_thicker (db : ConsDb) (l : Layer) (e' : Rat) (r : Rat) (he : l.e ≤ e')
    (h : layerResistance db l = some r) :
    ∃ r', layerResistance db { l with e := e' } = some r' ∧ r ≤ r' := by
  obtain ⟨mat, hm, ⟨k, d, sh, vd, hp, hk, rfl⟩ | ⟨vd, hp⟩⟩ := layerResistance_eq_some_iff.1 h
  · exact ⟨e' / k, layerResistance_eq_some_iff.2 ⟨mat, hm, .inl ⟨k, d, sh, vd, hp, hk, rfl⟩⟩,
      div_le_div_of_nonneg_right he hk.le⟩
  · exact ⟨r, layerResistance_eq_some_iff.2 ⟨mat, hm, .inr ⟨vd, hp⟩⟩, le_rfl⟩

/-! ## partitions (EN ISO 13789) -/

/-- for the 0.33 see `uCondUncond_fin` -/
theorem uPartition_eq_spec (F : Fns) (hb : F.bias = 0) (ai rf ua vol n : Rat)
    (hH : ua + 33 / 100 * (vol * n) ≠ 0) :
    (uCondUncond F ai rf ua vol (.fin n)).v = round2 (uPartition rf ai ua n vol) := by
  simp only [uCondUncond_fin hH, Fns.r2_unbiased F hb, uPartition]
  congr 3; ring

/-- more resistance in the partition itself never increases its U (loss coefficient fixed) -/
theorem uPartition_antitone (F : Fns) (hb : F.bias = 0) (ai ua vol n : Rat) {rf1 rf2 : Rat}
    (hH : 0 < ua + 33 / 100 * (vol * n)) (hai : 0 ≤ ai) (h0 : 0 < rf1) (h : rf1 ≤ rf2) :
    (uCondUncond F ai rf2 ua vol (.fin n)).v ≤ (uCondUncond F ai rf1 ua vol (.fin n)).v := by
  rw [uCondUncond_fin hH.ne', uCondUncond_fin hH.ne', Fns.r2_unbiased F hb, Fns.r2_unbiased F hb]
  exact round2_mono (one_div_le_one_div_of_le (add_pos_of_pos_of_nonneg h0 (div_nonneg hai hH.le))
    (add_le_add_left h _))

/-- equally conditioned spaces on both sides; the case without neighbour is not stated -/
theorem uPartitionSame_eq_spec (F : Fns) (hb : F.bias = 0) (w : Wall) (m : Model) (c : WallCons)
    (sp nx : Space) (nid : Id) (r : Rat)
    (hbd : w.bounds = .interior) (hc : m.cons.getWallCons w.cons = some c)
    (hr : c.resistance m.cons = some r) (hs : m.getSpace w.space = some sp)
    (hn : w.nextTo = some nid) (hnx : m.getSpace nid = some nx)
    (hsame : decide (sp.kind = .conditioned) = decide (nx.kind = .conditioned)) :
    (w.uValue F m).map (·.v) =
      some (round2 (1 / rPartition (flowPartition (decide (sp.kind = .conditioned))
        (decide (nx.kind = .conditioned)) w.tiltC) r)) := by
  simp only [Wall.uValue_interior_next hbd hn, Wall.resOf_eq_some_iff.2 ⟨c, hc, hr⟩, hs, hnx, Option.bind_some,
    Option.map_some, partU, hsame, if_true, Fns.r2_unbiased F hb, partition_flow_direction, rPartition]

/-! ## ground (EN ISO 13370) -/

/-- `0 < bp`: the code adds the edge term 2ψ/B' only under `charDim > 0`, the standard's formula divides by B' unguarded -/
theorem uSlab_eq_spec (F : Fns) (hb : F.bias = 0) (z dt bp psi : Rat) (hbp : 0 < bp) :
    (uGndSlab F z dt bp psi).v = round2 (uSlab F bp dt z psi) := by
  simp only [uGndSlab, uSlab, Fns.r2_unbiased F hb, LAMBDA_GND, gt_iff_lt, hbp, if_true]
  -- the code writes the argument of the logarithm as 1 + πB'/d, the standard as πB'/d + 1
  rw [add_comm (1 : Rat)]

/-- null-area slab (B' = 0): the edge term is dropped -/
theorem uSlab_no_dimension (F : Fns) (z dt psi : Rat) (hB : 0 < dt + z / 2) :
    (uGndSlab F z dt 0 psi).nf = false ∧ (uGndSlab F z dt 0 psi).v = F.r2 (LAMBDA_GND / (dt + z / 2)) := by
  constructor <;> simp [uGndSlab, not_lt.2 hB.le, hB.ne']

/-- fully buried wall -/
theorem uBasementWall_eq_spec (F : Fns) (hb : F.bias = 0) (z uw dt hNet : Rat)
    (hz : ¬ rabs z < 1 / 100) (hfull : ¬ hNet > z) :
    (uGndWall F z uw dt hNet).v = round2 (uBasementWall F z (2 / uw) dt) := by
  -- `hz`, `hfull` choose the branch (no height above ground); it is the standard's formula as it stands, λ = `LAMBDA_GND`
  simp only [uGndWall, hz, hfull, if_false, rabs_zero_lt_f32Eps, if_true, Fns.r2_unbiased F hb]
  rfl

/-- partly buried wall -/
theorem uBasementWall_partly (F : Fns) (hb : F.bias = 0) (z uw dt hNet : Rat)
    (hz : ¬ rabs z < 1 / 100) (hpart : hNet > z) (hh : ¬ rabs (hNet - z) < f32Eps) :
    (uGndWall F z uw dt hNet).v =
      round2 ((z * round2 (uBasementWall F z (2 / uw) dt) + (hNet - z) * uw) / hNet) := by
  simp only [uGndWall, hz, hpart, hh, if_false, if_true, Fns.r2_unbiased F hb]
  rfl

/-- an unburied "ground" wall is reported with its air-to-air value -/
theorem uGndWall_unburied (F : Fns) (z uw dt hNet : Rat) (hz : rabs z < 1 / 100) :
    uGndWall F z uw dt hNet = { v := uw } := by
  unfold uGndWall; rw [if_pos hz]

/-! ## non-vacuity -/

def exDb : ConsDb :=
  { wallcons := [{ id := "c", absorptance := 0.6, layers := [{ material := "m1", e := 0.1 }, { material := "m2", e := 0.05 }] }],
    materials := [{ id := "m1", properties := .detailed (1 / 2) 1000 1000 none },
                  { id := "m2", properties := .resistance 1 none }] }
def exModel : Model := { Model.dflt with cons := exDb, spaces := [{ id := "s", height := 3 }] }
def exWall : Wall :=
  { id := "w", bounds := .exterior, cons := "c", space := "s", geometry := { tilt := 90, azimuth := 0 } }

example : (exWall.uValue (Fns.approx) exModel).map (·.v) = some (73 / 100) := by decide +kernel
example : ∃ c r, exModel.cons.getWallCons exWall.cons = some c ∧ c.resistance exModel.cons = some r ∧ 0 ≤ r :=
  ⟨_, 6 / 5, rfl, by decide +kernel, by decide +kernel⟩

end Cte.C06
