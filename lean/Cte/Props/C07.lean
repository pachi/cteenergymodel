/-
C07 — Window U-value and solar factors follow their definitions.
-/
import Cte.Model.Energy
import Cte.Lemmas.Round
import Cte.Lemmas.Num
import Mathlib.Tactic.Ring
namespace Cte.C07

/-- the definition: (1 + ΔU/100)·(F_f·U_frame + (1 − F_f)·U_glass) -/
def winUDef (dU fF uFrame uGlass : Rat) : Rat := (1 + dU / 100) * (fF * uFrame + (1 - fF) * uGlass)

theorem winU_formula (F : Fns) (hb : F.bias = 0) (c : WinCons) (db : ConsDb) (g : Glass) (f : Frame)
    (hg : db.getGlass c.glass = some g) (hf : db.getFrame c.frame = some f) :
    c.uValue F db = some (round2 (winUDef c.deltaU c.fF f.uValue g.uValue)) := by
  simp only [WinCons.uValue, WinCons.uValueRaw, hg, hf, Option.map_some, Fns.r2_unbiased F hb, winUDef]
  congr 2; ring

theorem winU_none_iff (F : Fns) (c : WinCons) (db : ConsDb) :
    c.uValue F db = none ↔ db.getGlass c.glass = none ∨ db.getFrame c.frame = none := by
  unfold WinCons.uValue WinCons.uValueRaw
  cases db.getGlass c.glass <;> cases db.getFrame c.frame <;> simp

theorem winU_between (dU fF uF uG : Rat) (h0 : 0 ≤ fF) (h1 : fF ≤ 1) (hd : 0 ≤ 1 + dU / 100) :
    (1 + dU / 100) * rmin uF uG ≤ winUDef dU fF uF uG ∧
    winUDef dU fF uF uG ≤ (1 + dU / 100) * rmax uF uG := by
  have h1' := sub_nonneg.2 h1
  -- a bound is the same convex combination of itself: compare entry by entry
  have e (m : Rat) : m = fF * m + (1 - fF) * m := by ring
  rw [rmin_eq_min, rmax_eq_max, e (min uF uG), e (max uF uG)]
  exact ⟨mul_le_mul_of_nonneg_left (add_le_add (mul_le_mul_of_nonneg_left (min_le_left ..) h0)
      (mul_le_mul_of_nonneg_left (min_le_right ..) h1')) hd,
    mul_le_mul_of_nonneg_left (add_le_add (mul_le_mul_of_nonneg_left (le_max_left ..) h0)
      (mul_le_mul_of_nonneg_left (le_max_right ..) h1')) hd⟩

/-- the same after rounding (rounding is monotone) -/
theorem winU_rounded_between (dU fF uF uG : Rat) (h0 : 0 ≤ fF) (h1 : fF ≤ 1) (hd : 0 ≤ 1 + dU / 100) :
    round2 ((1 + dU / 100) * rmin uF uG) ≤ round2 (winUDef dU fF uF uG) ∧
    round2 (winUDef dU fF uF uG) ≤ round2 ((1 + dU / 100) * rmax uF uG) :=
  ⟨round2_mono (winU_between dU fF uF uG h0 h1 hd).1, round2_mono (winU_between dU fF uF uG h0 h1 hd).2⟩

/-- solar factor without shading = round2 (0.90 · g_n) -/
theorem ggl_formula (F : Fns) (hb : F.bias = 0) (c : WinCons) (db : ConsDb) (g : Glass)
    (hg : db.getGlass c.glass = some g) :
    c.gGlwi F db = some (round2 (9 / 10 * g.gGln)) := by
  simp only [WinCons.gGlwi, hg, Option.map_some, Fns.r2_unbiased F hb]
  congr 2; ring

/-- movable shading: the user's value when given, else (next theorem) the unshaded one -/
theorem gglsh_user (F : Fns) (hb : F.bias = 0) (c : WinCons) (db : ConsDb) (v : Rat)
    (h : c.gGlshwi = some v) : c.gGlshwiV F db = some (round2 v) := by
  simp [WinCons.gGlshwiV, h, Fns.r2_unbiased F hb]

theorem gglsh_unshaded (F : Fns) (c : WinCons) (db : ConsDb) (h : c.gGlshwi = none) :
    c.gGlshwiV F db = c.gGlwi F db := by
  simp [WinCons.gGlshwiV, h]

/-- props of a construction whose glazing is missing: solar factors 0.77, no U -/
theorem props_defaults (F : Fns) (m : Model) (c : WinCons) (h : c ∈ lastById (·.id) m.cons.wincons)
    (hg : m.cons.getGlass c.glass = none) (hs : c.gGlshwi = none) :
    ∃ p ∈ m.winConsProps F, p.id = c.id ∧ p.gGlwi = 77 / 100 ∧ p.gGlshwi = 77 / 100 ∧ p.u = none := by
  refine ⟨_, List.mem_map.2 ⟨c, h, rfl⟩, rfl, ?_, ?_, ?_⟩ <;>
    simp [WinCons.gGlwi, WinCons.gGlshwiV, WinCons.uValue, WinCons.uValueRaw, hg, hs]

/-- only the constant is stated, not `kData`: `kStep` reads a window's U as `(uOverride.orElse u).getD U_DEFAULT` -/
theorem k_default_u : ((none : Option Rat).orElse (fun _ => (none : Option Rat))).getD U_DEFAULT = 57 / 10 := rfl

/-- only the constants are stated, not `qSolJul` or `n50Data`: the fallbacks of `qTerms` and `winC100` -/
theorem downstream_defaults : G_DEFAULT = 77 / 100 ∧ FF_DEFAULT = 20 / 100 ∧ C100_DEFAULT = 100 :=
  ⟨rfl, rfl, rfl⟩

/-! ## non-vacuity -/
def exDb : ConsDb :=
  { wincons := [{ id := "wc", glass := "g", frame := "f", fF := 1 / 4, deltaU := 10, c100 := 9 }],
    glasses := [{ id := "g", uValue := 2, gGln := 3 / 4 }], frames := [{ id := "f", uValue := 4, absorptivity := 0.5 }] }

example : (exDb.wincons.map (fun c => (c.uValue Fns.approx exDb, c.gGlwi Fns.approx exDb))) =
    [(some (11 / 4), some (17 / 25))] := by decide +kernel

end Cte.C07
