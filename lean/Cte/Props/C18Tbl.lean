/-
  C18 — NewBDL_O.tbl, whole file: a file printed from a list of element rows and space rows (CRLF line ends, quoted names,
  blank-separated values) is read back row by row.
-/
import Cte.Props.C18Aux

namespace Cte.Props.C18Tbl
open Cte.Bdl Cte.Aux Cte.Props.C18Aux

/-- an element as written: name, the ten value tokens, and what they read as -/
structure ERow where
  name : Str
  toks : List Str
  pads : List Str
  trailing : Str
  nums : List Num
  idSurf : Int
  idSpace : Int

structure ERow.WF (r : ERow) : Prop where
  tlen : r.toks.length = 10
  plen : r.pads.length = 10
  name_ok : r.name ≠ [] ∧ Free isWs r.name ∧ Clean r.name ∧ NoQuoteEnds r.name
  toks_ok : ∀ t ∈ r.toks, t ≠ [] ∧ Free isWs t
  pads_ok : ∀ p ∈ r.pads, p ≠ [] ∧ ∀ c ∈ p, isWs c = true
  tr_ok : ∀ c ∈ r.trailing, isWs c = true
  nums_ok : (r.toks.take 7).mapM parseF32 = some r.nums
  type_ok : elemTypes.any (fun t => t.toList == r.toks.getD 7 []) = true
  a_ok : parseI32 (r.toks.getD 8 []) = some r.idSurf
  b_ok : parseI32 (r.toks.getD 9 []) = some r.idSpace

def ERow.nameLine (r : ERow) : Str := '"' :: (r.name ++ ['"'])
def ERow.valuesLine (r : ERow) : Str := padded (r.pads.zip r.toks) r.trailing
def ERow.parsed (r : ERow) : TElement :=
  { name := r.name, nums := r.nums, etype := r.toks.getD 7 [], idSurf := r.idSurf, idSpace := r.idSpace }

theorem padded_cons_nil (name : Str) (items : List (Str × Str)) (tr : Str) :
    padded (([], name) :: items) tr = name ++ padded items tr := by
  simp [padded]

/-- the name, a blank and the values line, as `tbl::parse` joins them -/
theorem element_line (r : ERow) (h : r.WF) :
    parseElement (r.name ++ [' '] ++ r.valuesLine) = some r.parsed :=
  parseElement_tokens
    (splitWs_name_values (by decide) (by rw [h.plen, h.tlen])
      ⟨h.name_ok.1, h.name_ok.2.1⟩ h.toks_ok h.pads_ok h.tr_ok)
    h.tlen h.nums_ok h.type_ok h.a_ok h.b_ok

/-- the element loop reads the printed elements into the map (a later row replaces an earlier one of its name) and stops
    after the last, leaving `more` -/
theorem tblElements_rows (rows : List ERow) (hw : ∀ r ∈ rows, r.WF) (more : List Str) (acc : List (Str × TElement)) (idx n : Int)
    (hne : rows ≠ []) (hn : n = idx + rows.length) (fuel : Nat) (hf : rows.length ≤ fuel) :
    tblElements fuel n idx acc (rows.flatMap (fun r => [r.nameLine, r.valuesLine]) ++ more) =
      .ok (rows.foldl (fun m r => assocInsert m r.name r.parsed) acc, more) := by
  induction rows generalizing acc idx fuel with
  | nil => exact absurd rfl hne
  | cons r t ih =>
    cases fuel with
    | zero => simp at hf
    | succ fuel =>
      have hr := hw r (by simp)
      have hname : trim (trimMatches '"' r.nameLine) = r.name := by
        unfold ERow.nameLine
        rw [trimMatches_quoted hr.name_ok.2.2.2, trim_clean hr.name_ok.2.2.1]
      simp only [List.flatMap_cons, List.cons_append, List.nil_append, tblElements, hname, element_line r hr, List.foldl_cons]
      cases t with
      | nil => simp [hn]
      | cons r2 t2 =>
        rw [if_neg (by simp only [List.length_cons] at hn; omega)]
        exact ih (fun x hx => hw x (by simp [hx])) _ (idx + 1) (List.cons_ne_nil r2 t2)
          (by simp only [List.length_cons] at hn ⊢; omega) fuel (Nat.le_of_succ_le_succ hf)

/-- a space as written: name, four value tokens -/
structure SRow where
  name : Str
  toks : List Str
  pads : List Str
  trailing : Str
  idSpace : Int
  mult : Int
  area : Num
  qint : Num

structure SRow.WF (r : SRow) : Prop where
  tlen : r.toks.length = 4
  plen : r.pads.length = 4
  name_ok : r.name ≠ [] ∧ Free isWs r.name ∧ NoQuoteEnds r.name
  toks_ok : ∀ t ∈ r.toks, t ≠ [] ∧ Free isWs t
  pads_ok : ∀ p ∈ r.pads, p ≠ [] ∧ ∀ c ∈ p, isWs c = true
  tr_ok : ∀ c ∈ r.trailing, isWs c = true
  a_ok : parseI32 (r.toks.getD 0 []) = some r.idSpace
  b_ok : parseI32 (r.toks.getD 1 []) = some r.mult
  c_ok : parseF32 (r.toks.getD 2 []) = some r.area
  d_ok : parseF32 (r.toks.getD 3 []) = some r.qint

def SRow.nameLine (r : SRow) : Str := '"' :: (r.name ++ ['"'])
def SRow.valuesLine (r : SRow) : Str := padded (r.pads.zip r.toks) r.trailing
def SRow.parsed (r : SRow) : TSpace := { name := r.name, idSpace := r.idSpace, mult := r.mult, area := r.area, qint := r.qint }

theorem parseSpace_tokens {s name : Str} {toks : List Str} {a b : Int} {c d : Num}
    (hs : splitWs s = name :: toks) (hlen : toks.length = 4)
    (ha : parseI32 (toks.getD 0 []) = some a) (hb : parseI32 (toks.getD 1 []) = some b)
    (hc : parseF32 (toks.getD 2 []) = some c) (hd : parseF32 (toks.getD 3 []) = some d) :
    parseSpace s = some { name := name, idSpace := a, mult := b, area := c, qint := d } := by
  have h5 : ((name :: toks).length != 5) = false := by simp [hlen]
  simp only [parseSpace, hs, h5, Bool.false_eq_true, if_false, nth, List.getD_cons_succ, List.getD_cons_zero, ha, hb, hc, hd]

theorem space_line (r : SRow) (h : r.WF) : parseSpace (r.name ++ [' '] ++ r.valuesLine) = some r.parsed :=
  parseSpace_tokens
    (splitWs_name_values (by decide) (by rw [h.plen, h.tlen])
      ⟨h.name_ok.1, h.name_ok.2.1⟩ h.toks_ok h.pads_ok h.tr_ok)
    h.tlen h.a_ok h.b_ok h.c_ok h.d_ok

/-- the space loop: `tblSpaces` only does not trim the name nor return the rest; same proof -/
theorem tblSpaces_rows (rows : List SRow) (hw : ∀ r ∈ rows, r.WF) (more : List Str) (acc : List (Str × TSpace)) (idx n : Int)
    (hne : rows ≠ []) (hn : n = idx + rows.length) (fuel : Nat) (hf : rows.length ≤ fuel) :
    tblSpaces fuel n idx acc (rows.flatMap (fun r => [r.nameLine, r.valuesLine]) ++ more) =
      .ok (rows.foldl (fun m r => assocInsert m r.name r.parsed) acc) := by
  induction rows generalizing acc idx fuel with
  | nil => exact absurd rfl hne
  | cons r t ih =>
    cases fuel with
    | zero => simp at hf
    | succ fuel =>
      have hr := hw r (by simp)
      have hname : trimMatches '"' r.nameLine = r.name := trimMatches_quoted hr.name_ok.2.2
      simp only [List.flatMap_cons, List.cons_append, List.nil_append, tblSpaces, hname, space_line r hr, List.foldl_cons]
      cases t with
      | nil => simp [hn]
      | cons r2 t2 =>
        rw [if_neg (by simp only [List.length_cons] at hn; omega)]
        exact ih (fun x hx => hw x (by simp [hx])) _ (idx + 1) (List.cons_ne_nil r2 t2)
          (by simp only [List.length_cons] at hn ⊢; omega) fuel (Nat.le_of_succ_le_succ hf)

/-- **whole file**: two header lines, the counts line, then a quoted name line and a values line for every element and every
    space, all CRLF-terminated — `tbl::parse` returns the two maps filled from the rows in file order, a later row replacing an
    earlier one of the same name.  Neither group may be empty: a count of 0 never stops a loop (it is compared after the
    increment). -/
theorem tblParse_file (l1 l2 counts : Str) (els : List ERow) (sps : List SRow)
    (hw : ∀ r ∈ els, r.WF) (hs : ∀ r ∈ sps, r.WF) (hne : els ≠ []) (hns : sps ≠ [])
    (hcounts : (splitWs counts).mapM parseI32 = some [(els.length : Int), (sps.length : Int)])
    (hnl : ∀ l ∈ l1 :: l2 :: counts :: (els.flatMap (fun r => [r.nameLine, r.valuesLine]) ++ sps.flatMap (fun r => [r.nameLine, r.valuesLine])), '\n' ∉ l) :
    tblParse ((l1 :: l2 :: counts :: (els.flatMap (fun r => [r.nameLine, r.valuesLine]) ++
        sps.flatMap (fun r => [r.nameLine, r.valuesLine]))).flatMap (fun b => b ++ ['\r', '\n'])) =
      .ok { elements := els.foldl (fun m r => assocInsert m r.name r.parsed) [],
            spaces := sps.foldl (fun m r => assocInsert m r.name r.parsed) [] } := by
  unfold tblParse
  rw [linesOf_crlf hnl]
  simp only [List.drop_succ_cons, List.drop_zero, hcounts, List.length_cons, List.length_nil, Nat.lt_irrefl, if_false,
    List.getD_cons_zero, List.getD_cons_succ]
  rw [tblElements_rows els hw _ [] 0 _ hne (by simp) _ (by simp [List.length_flatMap, List.map_const', List.sum_replicate_nat]; omega)]
  have hsp := tblSpaces_rows sps hs [] [] 0 sps.length hns (by simp) (sps.flatMap (fun r => [r.nameLine, r.valuesLine])).length
    (by simp [List.length_flatMap, List.map_const', List.sum_replicate_nat]; omega)
  rw [List.append_nil] at hsp
  simp only [hsp]

end Cte.Props.C18Tbl
