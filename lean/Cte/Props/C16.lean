/-
C16 — Purging removes exactly the unreachable items and changes no indicator.
Property theorems; model `Cte/Model/Purge.lean`, closed forms in `Cte/Lemmas/Purge.lean`.
(The indicator-invariance part lives in `Cte/Props/C16Indicators.lean`.)
-/
import Cte.Lemmas.Purge
import Cte.Props.C15
namespace Cte.C16

/-- elements are never touched -/
theorem purge_elements (m : Model) :
    (purge m).walls = m.walls ∧ (purge m).windows = m.windows ∧ (purge m).shades = m.shades ∧
    (purge m).info = m.info ∧ (purge m).overrides = m.overrides :=
  ⟨purge_walls m, purge_windows m, purge_shades m, purge_info m, purge_overrides m⟩

theorem purge_exact_spaces (m : Model) (s : Space) :
    s ∈ (purge m).spaces ↔
      s ∈ m.spaces ∧ ∃ w ∈ m.walls, w.space = s.id ∨ w.nextTo = some s.id := by
  rw [purge_spaces, List.mem_filter, List.contains_iff_mem, mem_spacesUsed]

theorem purge_exact_bridges (m : Model) (tb : ThermalBridge) :
    tb ∈ (purge m).thermalBridges ↔ tb ∈ m.thermalBridges ∧ rabs tb.l > f32Eps := by
  rw [purge_bridges, List.mem_filter, decide_eq_true_eq]

theorem purge_exact_wallcons (m : Model) (c : WallCons) :
    c ∈ (purge m).cons.wallcons ↔ c ∈ m.cons.wallcons ∧ ∃ w ∈ m.walls, w.cons = c.id := by
  rw [purge_wallcons, List.mem_filter, List.contains_iff_mem, List.mem_map]

theorem purge_exact_wincons (m : Model) (c : WinCons) :
    c ∈ (purge m).cons.wincons ↔ c ∈ m.cons.wincons ∧ ∃ w ∈ m.windows, w.cons = c.id := by
  rw [purge_wincons, List.mem_filter, List.contains_iff_mem, List.mem_map]

/-- materials: kept iff used by a layer of a *remaining* wall construction -/
theorem purge_exact_materials (m : Model) (x : Material) :
    x ∈ (purge m).cons.materials ↔
      x ∈ m.cons.materials ∧ ∃ c ∈ (purge m).cons.wallcons, ∃ l ∈ c.layers, l.material = x.id := by
  rw [purge_materials, List.mem_filter, List.contains_iff_mem]; simp only [List.mem_flatMap, List.mem_map]

theorem purge_exact_glasses (m : Model) (x : Glass) :
    x ∈ (purge m).cons.glasses ↔
      x ∈ m.cons.glasses ∧ ∃ c ∈ (purge m).cons.wincons, c.glass = x.id := by
  rw [purge_glasses, List.mem_filter, List.contains_iff_mem, List.mem_map]

theorem purge_exact_frames (m : Model) (x : Frame) :
    x ∈ (purge m).cons.frames ↔
      x ∈ m.cons.frames ∧ ∃ c ∈ (purge m).cons.wincons, c.frame = x.id := by
  rw [purge_frames, List.mem_filter, List.contains_iff_mem, List.mem_map]

theorem purge_exact_loads (m : Model) (x : SpaceLoads) :
    x ∈ (purge m).loads ↔ x ∈ m.loads ∧ ∃ s ∈ (purge m).spaces, s.loads = some x.id := by
  rw [purge_loads, List.mem_filter, List.contains_iff_mem, List.mem_filterMap]

theorem purge_exact_thermostats (m : Model) (x : Thermostat) :
    x ∈ (purge m).thermostats ↔
      x ∈ m.thermostats ∧ ∃ s ∈ (purge m).spaces, s.thermostat = some x.id := by
  rw [purge_thermostats, List.mem_filter, List.contains_iff_mem, List.mem_filterMap]

theorem purge_exact_year (m : Model) (x : Schedule) :
    x ∈ (purge m).schedules.year ↔
      x ∈ m.schedules.year ∧
      ((∃ l ∈ (purge m).loads, l.peopleSchedule = some x.id ∨ l.equipmentSchedule = some x.id ∨
          l.lightingSchedule = some x.id) ∨
       (∃ t ∈ (purge m).thermostats, t.tempMax = some x.id ∨ t.tempMin = some x.id)) := by
  rw [purge_year, List.mem_filter, List.contains_iff_mem]; simp [yearUsed]

theorem purge_exact_week (m : Model) (x : Schedule) :
    x ∈ (purge m).schedules.week ↔
      x ∈ m.schedules.week ∧ ∃ y ∈ (purge m).schedules.year, ∃ e ∈ y.values, e.1 = x.id := by
  rw [purge_week, List.mem_filter, List.contains_iff_mem]; simp only [List.mem_flatMap, List.mem_map]

theorem purge_exact_day (m : Model) (x : ScheduleDay) :
    x ∈ (purge m).schedules.day ↔
      x ∈ m.schedules.day ∧ ∃ w ∈ (purge m).schedules.week, ∃ e ∈ w.values, e.1 = x.id := by
  rw [purge_day, List.mem_filter, List.contains_iff_mem]; simp only [List.mem_flatMap, List.mem_map]

theorem purge_sublist (m : Model) :
    (purge m).spaces.Sublist m.spaces ∧
    (purge m).thermalBridges.Sublist m.thermalBridges ∧
    (purge m).cons.wallcons.Sublist m.cons.wallcons ∧
    (purge m).cons.wincons.Sublist m.cons.wincons ∧
    (purge m).cons.materials.Sublist m.cons.materials ∧
    (purge m).cons.glasses.Sublist m.cons.glasses ∧
    (purge m).cons.frames.Sublist m.cons.frames ∧
    (purge m).loads.Sublist m.loads ∧
    (purge m).thermostats.Sublist m.thermostats ∧
    (purge m).schedules.year.Sublist m.schedules.year ∧
    (purge m).schedules.week.Sublist m.schedules.week ∧
    (purge m).schedules.day.Sublist m.schedules.day := by
  rw [purge_spaces, purge_bridges, purge_wallcons, purge_wincons, purge_materials, purge_glasses,
    purge_frames, purge_loads, purge_thermostats, purge_year, purge_week, purge_day]
  exact ⟨List.filter_sublist, List.filter_sublist, List.filter_sublist, List.filter_sublist,
   List.filter_sublist, List.filter_sublist, List.filter_sublist, List.filter_sublist,
   List.filter_sublist, List.filter_sublist, List.filter_sublist, List.filter_sublist⟩

attribute [local ext (iff := false)] Model ConsDb SchedulesDb

/-- Field by field: each retained collection is a filter whose test reads only collections purged before it,
so the second test is the first again. -/
theorem purge_idempotent (m : Model) : purge (purge m) = purge m := by
  refine Model.ext ?_ ?_ ?_ ?_ ?_ ?_ (ConsDb.ext ?_ ?_ ?_ ?_ ?_) (SchedulesDb.ext ?_ ?_ ?_) ?_ ?_ ?_ <;>
  simp only [purge_info, purge_walls, purge_windows, purge_shades, purge_overrides, purge_spaces,
    purge_bridges, purge_wallcons, purge_wincons, purge_materials, purge_glasses, purge_frames,
    purge_loads, purge_thermostats, purge_year, purge_week, purge_day, spacesUsed,
    List.filter_filter, Bool.and_self]

theorem wallWarns_purge (m : Model) {w : Wall} (hw : w ∈ m.walls) :
    wallWarns (purge m).spaceIds (purge m).wallConsIds w = wallWarns m.spaceIds m.wallConsIds w := by
  have hs : ∀ i, (w.space = i ∨ w.nextTo = some i) →
      (purge m).spaceIds.contains i = m.spaceIds.contains i := fun i hi => by
    unfold Model.spaceIds; rw [purge_spaces]
    exact contains_map_filter_key (List.contains_iff_mem.2 (mem_spacesUsed.2 ⟨w, hw, hi⟩))
  have hc : (purge m).wallConsIds.contains w.cons = m.wallConsIds.contains w.cons := by
    unfold Model.wallConsIds; rw [purge_wallcons]
    exact contains_map_filter_key (List.contains_iff_mem.2 (List.mem_map_of_mem hw))
  unfold wallWarns nextToBroken
  rw [hs _ (.inl rfl), hc]
  cases hn : w.nextTo with
  | none => rfl
  | some n => simp only [hs n (.inr hn)]

theorem winWarns_purge (m : Model) {w : Window} (hw : w ∈ m.windows) :
    winWarns (purge m).wallIds (purge m).winConsIds w = winWarns m.wallIds m.winConsIds w := by
  unfold winWarns Model.wallIds Model.winConsIds
  rw [purge_walls, purge_wincons,
    contains_map_filter_key (List.contains_iff_mem.2 (List.mem_map_of_mem hw))]

/-- The warnings of the model, in order, less those of the dropped bridges: no wall or window gets a
different answer from a lookup it makes. -/
theorem check_purge (m : Model) : check (purge m) =
    m.walls.flatMap (wallWarns m.spaceIds m.wallConsIds) ++
    m.windows.flatMap (winWarns m.wallIds m.winConsIds) ++
    (m.thermalBridges.filter (fun tb => decide (rabs tb.l > f32Eps))).flatMap tbWarns := by
  unfold check
  rw [purge_walls, purge_windows, purge_bridges, flatMap_congr_mem (fun _ => wallWarns_purge m),
    flatMap_congr_mem (fun _ => winWarns_purge m)]

theorem purge_no_new_broken_link (m : Model) (x : Warn) (h : x ∈ check (purge m)) :
    x ∈ check m := by
  rw [check_purge, List.mem_append, List.mem_flatMap] at h
  unfold check; rw [List.mem_append, List.mem_flatMap]
  exact h.imp_right fun ⟨tb, htb, hx⟩ => ⟨tb, (List.mem_filter.1 htb).1, hx⟩

/-- a warning not about a bridge length survives; `check_purge` says more: exactly those of dropped bridges go -/
theorem purge_keeps_link_warnings (m : Model) (x : Warn) (h : x ∈ check m)
    (hk : x.kind ≠ .tbNegative) : x ∈ check (purge m) := by
  unfold check at h
  rw [List.mem_append, List.mem_flatMap] at h
  rw [check_purge, List.mem_append]
  exact h.imp_right fun ⟨tb, _, hx⟩ => absurd (congrArg Warn.kind (C15.mem_tbWarns.1 hx).1) hk

/-! ## Non-vacuity -/

def exModel : Model :=
  { Model.dflt with
    spaces := [{ id := "s1", height := 3, loads := some "l1" }, { id := "s2", height := 3, loads := some "l2" }]
    walls := [{ id := "w1", bounds := .exterior, cons := "c1", space := "s1",
                geometry := { tilt := 90, azimuth := 0 } }]
    thermalBridges := [{ id := "t1", l := 0 }, { id := "t2", l := 2 }]
    cons := { wallcons := [{ id := "c1", absorptance := 0.6, layers := [{ material := "m2", e := 0.1 }] },
                           { id := "c2", absorptance := 0.6, layers := [{ material := "m1", e := 0.1 }] }],
              materials := [{ id := "m1", properties := .resistance 1 none },
                            { id := "m2", properties := .resistance 2 none }] }
    loads := [{ id := "l1", areaPerPerson := 10, peopleSensible := 1, peopleLatent := 1, equipment := 1,
                lighting := 1, peopleSchedule := some "y1" },
              { id := "l2", areaPerPerson := 10, peopleSensible := 1, peopleLatent := 1, equipment := 1,
                lighting := 1, peopleSchedule := some "y2" }]
    schedules := { year := [{ id := "y1", values := [("k1", 365)] }, { id := "y2", values := [("k2", 365)] }],
                   week := [{ id := "k1", values := [("d1", 7)] }, { id := "k2", values := [("d2", 7)] }],
                   day := [{ id := "d1", values := [1] }, { id := "d2", values := [0] }] } }

example : (purge exModel).spaces.map (·.id) = ["s1"] ∧
    (purge exModel).thermalBridges.map (·.id) = ["t2"] ∧
    (purge exModel).cons.wallcons.map (·.id) = ["c1"] ∧
    (purge exModel).cons.materials.map (·.id) = ["m2"] ∧
    (purge exModel).loads.map (·.id) = ["l1"] ∧
    (purge exModel).schedules.year.map (·.id) = ["y1"] ∧
    (purge exModel).schedules.week.map (·.id) = ["k1"] ∧
    (purge exModel).schedules.day.map (·.id) = ["d1"] := by decide +kernel

end Cte.C16
