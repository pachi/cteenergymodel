/-
Bounding-volume hierarchy (`bemodel/src/energy/raytracing/bvh.rs`), after the repair of the three
build defects: a list that fits in a leaf is a leaf (also when it is the whole input), and a
partition with an empty side becomes a leaf instead of being split again for ever.
The tree logic is generic in the element, box and ray types; `Cte/Model/Box.lean` instantiates it
with exact-rational boxes and the slab test.
`query` is the traversal as a recursion, `walk` the same traversal as the code writes it (explicit stack); the code-shaped
construction is in `Cte/Model/BvhIter.lean`.
-/
namespace Cte.Bvh

structure Ops (E Box Ray : Type) where
  box    : E → Box
  join   : Box → Box → Box
  empty  : Box
  hit    : Ray → E → Bool
  boxHit : Ray → Box → Bool
  /-- "centre < mean centre on the longest axis": may depend on the whole list -/
  sel    : List E → E → Bool

variable {E Box Ray : Type}

inductive Tree (E Box : Type) where
  | leaf (b : Box) (es : List E)
  | node (b : Box) (l r : Tree E Box)

def Tree.box : Tree E Box → Box
  | .leaf b _ => b
  | .node b _ _ => b

/-- `Vec<T>::aabb()`: fold of `join` from the empty box -/
def boxOf (o : Ops E Box Ray) (es : List E) : Box := es.foldl (fun b e => o.join b (o.box e)) o.empty

theorem partition_length (p : E → Bool) (es : List E) :
    (es.partition p).1.length + (es.partition p).2.length = es.length := by
  rw [List.partition_eq_filter_filter, ← List.length_append]
  exact (List.filter_append_perm p es).length_eq

/-- `BVH::build`: leaf when the list fits or when the partition is degenerate, else split -/
def build (o : Ops E Box Ray) (k : Nat) (es : List E) : Tree E Box :=
  if es.length ≤ k then .leaf (boxOf o es) es
  else
    let lr := es.partition (o.sel es)
    if h : lr.1 = [] ∨ lr.2 = [] then .leaf (boxOf o es) es
    else
      let l := build o k lr.1
      let r := build o k lr.2
      .node (o.join l.box r.box) l r
termination_by es.length
decreasing_by
  all_goals
    have hl := partition_length (o.sel es) es
    have h1 : lr.1 ≠ [] := fun c => h (Or.inl c)
    have h2 : lr.2 ≠ [] := fun c => h (Or.inr c)
    have p1 : 0 < lr.1.length := List.length_pos_iff.mpr h1
    have p2 : 0 < lr.2.length := List.length_pos_iff.mpr h2
    simp only [lr] at *
    omega

/-- `BVH::intersects(..).is_some()`: pre-order walk, a subtree is entered only if the ray meets its box -/
def query (o : Ops E Box Ray) (r : Ray) : Tree E Box → Bool
  | .leaf b es => o.boxHit r b && es.any (o.hit r)
  | .node b l rt => o.boxHit r b && (query o r l || query o r rt)

def Tree.size : Tree E Box → Nat
  | .leaf _ _ => 1
  | .node _ l r => 1 + l.size + r.size

def stackSize (st : List (Tree E Box)) : Nat := (st.map Tree.size).sum

/-- the code as written: `PreorderIter::next` pops a node from an explicit stack, drops it when the ray misses its box, otherwise pushes
its right and then its left child (so the left one is popped first); `BVH::intersects` looks into the leaves that come out and stops
at the first element hit -/
def walk (o : Ops E Box Ray) (r : Ray) : List (Tree E Box) → Bool
  | [] => false
  | .leaf b es :: st => if o.boxHit r b then (if es.any (o.hit r) then true else walk o r st) else walk o r st
  | .node b l rt :: st => if o.boxHit r b then walk o r (l :: rt :: st) else walk o r st
termination_by st => stackSize st
decreasing_by
  all_goals simp only [stackSize, List.map_cons, List.sum_cons, Tree.size]
  all_goals omega

def items : Tree E Box → List E
  | .leaf _ es => es
  | .node _ l r => items l ++ items r

/-- what the box test must satisfy for pruning to be safe -/
structure Laws (o : Ops E Box Ray) : Prop where
  sound : ∀ r e b, o.hit r e = true → o.boxHit r (o.join b (o.box e)) = true
  mono_l : ∀ r a b, o.boxHit r a = true → o.boxHit r (o.join a b) = true
  mono_r : ∀ r a b, o.boxHit r b = true → o.boxHit r (o.join a b) = true

end Cte.Bvh
