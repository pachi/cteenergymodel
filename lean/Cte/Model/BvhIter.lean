/-
The BVH construction as the code writes it (`bemodel/src/energy/raytracing/bvh.rs`): no recursion.
`generate_node_list` splits element lists with an explicit stack of pending work and numbers the nodes
with a running counter, emitting a flat list of `TreeElement`s in pre-order; `build_from_node_list`
pops that list from the end and reassembles the tree through two maps keyed by node id (`pending`:
parents still missing a child, `completed`: finished subtrees waiting for their parent).
Every `unwrap()` / `panic!()` of the code is a `none` here.
`Cte/Props/C13Iter.lean` proves that the two phases together compute `Bvh.build`.
(The third code-shaped piece, the explicit-stack traversal `walk`, stands in `Bvh.lean` next to the `query` it is proved equal to.)
-/
import Cte.Model.Bvh
namespace Cte.Bvh

variable {E Box Ray : Type}

inductive Side | L | R
  deriving DecidableEq, Repr

/-- `TreeElement(id, type, side, parent, elems)` -/
structure TElem (E : Type) where
  id : Nat
  leaf : Bool
  side : Side
  parent : Option Nat
  elems : Option (List E)

/-- an entry of the `pending` stack of `generate_node_list` (always `Node`-typed with `Some(elems)`) -/
structure Pend (E : Type) where
  id : Nat
  side : Side
  parent : Option Nat
  elems : List E

/-- termination measure of `genLoop`, per pending entry: an entry with `n` elements has at most `2n − 1` nodes still to emit
(a binary tree whose leaves are non-empty; the code's `2*n-1 nodos con n terminales`), and an empty entry still emits its one leaf -/
def pendWeight (n : Nat) : Nat := if n = 0 then 1 else 2 * n - 1

def pendMeasure (p : List (Pend E)) : Nat := (p.map (fun x => pendWeight x.elems.length)).sum

theorem partition_fst_length_pos {p : E → Bool} {es : List E} (h : (es.partition p).1 ≠ []) : 0 < (es.partition p).1.length :=
  List.length_pos_iff.mpr h

/-- the `while !pending.is_empty()` loop of `generate_node_list`: `pending` (top first), the id counter, the node list so far.
(The code unrolls the first iteration for the root; it is the same body.) -/
def genLoop (o : Ops E Box Ray) (k : Nat) : List (Pend E) → Nat → List (TElem E) → List (TElem E)
  | [], _, out => out
  | c :: rest, id, out =>
    if c.elems.length > k then
      if h : (c.elems.partition (o.sel c.elems)).1 = [] ∨ (c.elems.partition (o.sel c.elems)).2 = [] then
        -- `let mut all = left; all.extend(right)`: the degenerate leaf holds the two halves in this order
        genLoop o k rest id (out ++ [⟨c.id, true, c.side, c.parent,
          some ((c.elems.partition (o.sel c.elems)).1 ++ (c.elems.partition (o.sel c.elems)).2)⟩])
      else
        genLoop o k (⟨id + 1, .L, some c.id, (c.elems.partition (o.sel c.elems)).1⟩ ::
                     ⟨id + 2, .R, some c.id, (c.elems.partition (o.sel c.elems)).2⟩ :: rest) (id + 2)
          (out ++ [⟨c.id, false, c.side, c.parent, none⟩])
    else genLoop o k rest id (out ++ [⟨c.id, true, c.side, c.parent, some c.elems⟩])
termination_by p => pendMeasure p
decreasing_by
  · simp only [pendMeasure, List.map_cons, List.sum_cons]
    have : 0 < pendWeight c.elems.length := by unfold pendWeight; split <;> omega
    omega
  · simp only [pendMeasure, List.map_cons, List.sum_cons]
    have hl := partition_length (o.sel c.elems) c.elems
    have h1 : (c.elems.partition (o.sel c.elems)).1 ≠ [] := fun e => h (Or.inl e)
    have h2 : (c.elems.partition (o.sel c.elems)).2 ≠ [] := fun e => h (Or.inr e)
    have p1 := List.length_pos_iff.mpr h1
    have p2 := List.length_pos_iff.mpr h2
    unfold pendWeight
    split <;> split <;> split <;> omega
  · simp only [pendMeasure, List.map_cons, List.sum_cons]
    have : 0 < pendWeight c.elems.length := by unfold pendWeight; split <;> omega
    omega

/-- `generate_node_list` -/
def generate (o : Ops E Box Ray) (k : Nat) (es : List E) : List (TElem E) :=
  genLoop o k [⟨0, .L, none, es⟩] 0 []

/-! ### `build_from_node_list` -/

/-- a `BVHNode::Node` under construction -/
structure PNode (E Box : Type) where
  left : Option (Tree E Box) := none
  right : Option (Tree E Box) := none

/-- `BTreeMap<NodeId, _>` as an association list -/
def mget {V : Type} (k : Nat) : List (Nat × V) → Option V
  | [] => none
  | (a, v) :: t => if a = k then some v else mget k t

/-- `insert`: replaces the value of a present key, otherwise adds the entry -/
def mset {V : Type} (k : Nat) (v : V) : List (Nat × V) → List (Nat × V)
  | [] => [(k, v)]
  | (a, w) :: t => if a = k then (a, v) :: t else (a, w) :: mset k v t

/-- `remove` -/
def mdel {V : Type} (k : Nat) (m : List (Nat × V)) : List (Nat × V) := m.filter (fun x => x.1 ≠ k)

structure RState (E Box : Type) where
  pending : List (Nat × PNode E Box) := []
  completed : List (Nat × Tree E Box) := []

/-- attach a finished subtree to its parent: `pending.entry(parent).or_insert(empty node)`, `set_left` / `set_right`, and when both
children are there move the parent (with the joined box) to `completed` -/
def setSlot (o : Ops E Box Ray) (S : RState E Box) (p : Nat) (s : Side) (t : Tree E Box) : RState E Box :=
  let cur : PNode E Box := (mget p S.pending).getD {}
  let nw : PNode E Box := match s with
    | .L => { cur with left := some t }
    | .R => { cur with right := some t }
  match nw.left, nw.right with
  | some l, some r => { pending := mdel p S.pending, completed := mset p (.node (o.join l.box r.box) l r) S.completed }
  | _, _ => { pending := mset p nw S.pending, completed := S.completed }

/-- one iteration of the `while node_list.len() > 1` loop on the popped element -/
def recStep (o : Ops E Box Ray) (S : RState E Box) (e : TElem E) : Option (RState E Box) :=
  match e.parent with
  | none => none                                   -- `maybe_parent_id.unwrap()`
  | some p =>
    if e.leaf then
      match e.elems with
      | none => none                               -- `elems.unwrap()`
      | some es => some (setSlot o S p e.side (.leaf (boxOf o es) es))
    else
      match mget e.id S.completed with
      | none => none                               -- `completed.remove(&id).unwrap()`
      | some t => some (setSlot o { S with completed := mdel e.id S.completed } p e.side t)

def recRun (o : Ops E Box Ray) : List (TElem E) → RState E Box → Option (RState E Box)
  | [], S => some S
  | e :: t, S => match recStep o S e with
    | none => none
    | some S' => recRun o t S'

/-- `build_from_node_list`: `none` = a panic, `some none` = a BVH without root -/
def reconstruct (o : Ops E Box Ray) (l : List (TElem E)) : Option (Option (Tree E Box)) :=
  match l with
  | [⟨_, true, _, _, some es⟩] => some (some (.leaf (boxOf o es) es))
  | [] => some none
  | _ :: rest =>
    -- the elements are popped from the end while more than one is left: the first one is never popped
    match recRun o rest.reverse {} with
    | none => none
    | some S => some (mget 0 S.completed)

/-- `BVH::build(..).intersects(ray).is_some()` as the code computes it -/
def codeIntersects (o : Ops E Box Ray) (k : Nat) (r : Ray) (es : List E) : Option Bool :=
  match reconstruct o (generate o k es) with
  | none => none
  | some none => some false
  | some (some t) => some (walk o r [t])

end Cte.Bvh
